/-
C07 — structural obligation over facts regenerated from /repo on every run: whatever an index scan yields is passed
through the complete filter again (the premise of `refilter_exact` / `multi_entry_scan_exact` in Props/C07).
-/
import DefraModel.Generated.Facts
namespace Defra.Oblig.C07
open Defra.Generated

def startSites : List String :=
  (fetcherSites.filter (fun w => w.file == "internal/db/fetcher/wrapper.go" && w.func == "wrappingFetcher.Start")).map (·.arg)

/-- the index fetcher is constructed in `wrappingFetcher.Start` only, and the filtering wrap is constructed there
    after it: an index scan never reaches the planner without the complete filter re-applied -/
theorem index_scans_are_refiltered :
    (fetcherSites.filter (fun w => w.arg == "newIndexFetcher")).all
      (fun w => w.file == "internal/db/fetcher/wrapper.go" && w.func == "wrappingFetcher.Start") = true ∧
    startSites.contains "newIndexFetcher" = true ∧
    ((startSites.dropWhile (· != "newIndexFetcher")).contains "newFilteredFetcher") = true ∧
    ((startSites.dropWhile (· != "newFilteredFetcher")).contains "newIndexFetcher") = false := by
  decide +kernel

/-! ### a null operand of an ordering comparison: the filter evaluation (`internal/connor`) and the value matchers of
    the index fetcher (`createValueMatcher`), read from the sources -/

/-- what `internal/connor/<f>.go` returns for `condition == nil`, as a function of "the data is nil" -/
def connorNil (f : String) (dataNil : Bool) : Option Bool :=
  match (nilSemantics.find? (fun w => w.func == f && w.file == "internal/connor/" ++ f ++ ".go")).map (·.arg) with
  | some "true" => some true
  | some "false" => some false
  | some "data == nil" => some dataNil
  | some "data != nil" => some (!dataNil)
  | _ => none

/-- what the matcher `createValueMatcher` builds for a nil operand and operator `op` says about a value -/
def matcherNil (op : String) (dataNil : Bool) : Option Bool :=
  if nilSemantics.any (fun w => w.func == "nil:unrecognised") then none
  else match (nilSemantics.find? (fun w => w.func == "nil:" ++ op)).map (·.arg) with
    | some "anyMatcher" => some true
    | some "noneMatcher" => some false
    | some _ => none
    | none => some (dataNil == nilSemantics.any (fun w => w.func == "nilMatcher:true" && w.arg == op))

/-- **index value matchers follow the filter semantics for a null operand**: `_gt`, `_ge`, `_lt`, `_le` with null mean
    to the index fetcher what they mean to the filter evaluation, for values that are nil and values that are not -/
theorem nil_operand_matchers_follow_the_filter :
    [("gt", "opGt"), ("ge", "opGe"), ("lt", "opLt"), ("le", "opLe")].all (fun p =>
      [true, false].all (fun dataNil =>
        (connorNil p.1 dataNil).isSome && connorNil p.1 dataNil == matcherNil p.2 dataNil)) = true := by
  decide +kernel

end Defra.Oblig.C07
