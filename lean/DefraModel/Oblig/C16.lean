/-
C16 — structural obligation over facts regenerated from /repo on every run: the stores of a concurrent transaction are
built from the mutex-wrapped transaction, so that every storage operation of a transaction shared by
several goroutines is serialised — the premise under which the model treats a call's storage operations as atomic
steps of one goroutine at a time.
-/
import DefraModel.Generated.Facts
namespace Defra.Oblig.C16
open Defra.Generated

theorem concurrent_txn_stores_go_through_its_mutex :
    (txnWiring.filter (fun w => w.file == "internal/datastore/concurrent_txn.go")).all
      (fun w => w.arg == "rootConcurentTxn") = true ∧
    (txnWiring.any (fun w => w.file == "internal/datastore/concurrent_txn.go")) = true := by
  decide +kernel

end Defra.Oblig.C16
