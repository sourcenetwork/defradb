import DefraModel.Crdt.Model
import DefraModel.Proofs.ListLemmas

/-!
The merge walk `loadComposites`: it collects only stored, unmerged blocks reached from the start through such blocks,
each once (`Collected`, any store and fuel); with fuel beyond the number of stored blocks it reaches all of them
(`WalkPost`).
-/
namespace Defra.Crdt

theorem Blocks.get?_id {bs : Blocks} {c : Nat} {b : Block} (h : bs.get? c = some b) : b.id = c := by
  unfold Blocks.get? at h
  have := List.find?_some h
  simpa using this

theorem Blocks.get?_cons (x : Block) (t : Blocks) (c : Nat) :
    Blocks.get? (x :: t) c = if x.id == c then some x else Blocks.get? t c := by
  simp only [Blocks.get?, List.find?_cons]; split <;> simp [*]

theorem get?_mem {bs : Blocks} {y : Nat} {b : Block} (h : bs.get? y = some b) : b ∈ bs := by
  unfold Blocks.get? at h
  exact List.mem_of_find?_eq_some h

/-- two stored blocks with one identifier are one block -/
theorem Blocks.get?_inj {bs : Blocks} {a b : Block} {i : Nat} (ha : bs.get? a.id = some a) (hb : bs.get? i = some b)
    (h : a.id = i) : a = b := by
  rw [h, hb] at ha; exact (Option.some.inj ha).symm

theorem get?_of_mem_nodup (bs : Blocks) (hn : (bs.map (·.id)).Nodup) (b : Block) (hb : b ∈ bs) :
    bs.get? b.id = some b :=
  ListLemmas.find?_key_of_nodup Block.id hn hb

theorem insertByHeight_perm (b : Block) (l : List Block) : (insertByHeight b l).Perm (b :: l) := by
  induction l with
  | nil => exact List.Perm.refl _
  | cons x xs ih =>
    unfold insertByHeight
    split
    · exact List.Perm.refl _
    · exact (List.Perm.cons x ih).trans (List.Perm.swap b x xs)

theorem sortByHeight_perm_aux (l acc : List Block) :
    (l.foldl (fun acc b => insertByHeight b acc) acc).Perm (l ++ acc) := by
  induction l generalizing acc with
  | nil => exact List.Perm.refl _
  | cons x xs ih =>
    simp only [List.foldl_cons, List.cons_append]
    refine (ih (insertByHeight x acc)).trans ?_
    refine (List.Perm.append_left xs (insertByHeight_perm x acc)).trans ?_
    exact List.perm_middle

theorem sortByHeight_perm (l : List Block) : (sortByHeight l).Perm l := by
  have := sortByHeight_perm_aux l []
  simpa [sortByHeight] using this

theorem insertByHeight_sorted (b : Block) (l : List Block) (h : l.Pairwise (fun x y => x.height ≤ y.height)) :
    (insertByHeight b l).Pairwise (fun x y => x.height ≤ y.height) := by
  induction l with
  | nil => exact List.pairwise_singleton _ _
  | cons x xs ih =>
    rw [List.pairwise_cons] at h
    unfold insertByHeight
    by_cases hlt : b.height < x.height
    · rw [if_pos hlt]
      refine List.pairwise_cons.mpr ⟨fun y hy => Nat.le_trans (Nat.le_of_lt hlt) ?_, List.pairwise_cons.mpr h⟩
      rcases List.mem_cons.mp hy with rfl | hy
      · exact Nat.le_refl _
      · exact h.1 y hy
    · rw [if_neg hlt]
      refine List.pairwise_cons.mpr ⟨fun y hy => ?_, ih h.2⟩
      rcases List.mem_cons.mp ((insertByHeight_perm b xs).mem_iff.mp hy) with rfl | hy
      · exact Nat.le_of_not_lt hlt
      · exact h.1 y hy

theorem sortByHeight_sorted (l : List Block) : (sortByHeight l).Pairwise (fun x y => x.height ≤ y.height) :=
  List.foldlRecOn l _ List.Pairwise.nil fun acc h b _ => insertByHeight_sorted b acc h

def Expanded (bs : Blocks) (heads : List Nat) (x : Nat) : Prop :=
  ∃ b, bs.get? x = some b ∧ isMerged bs heads x b.height = false

/-- the walk's fuel only has to exceed this -/
def unvisited (bs : Blocks) (visited : List Nat) : Nat := (bs.filter (fun b => !visited.contains b.id)).length

theorem unvisited_mono (bs : Blocks) (v1 v2 : List Nat) (h : ∀ x ∈ v1, x ∈ v2) : unvisited bs v2 ≤ unvisited bs v1 := by
  unfold unvisited
  rw [← List.countP_eq_length_filter, ← List.countP_eq_length_filter]
  exact List.countP_mono_left fun _ _ hb => ListLemmas.not_contains_eq_true.mpr fun hm => ListLemmas.not_contains_eq_true.mp hb (h _ hm)

theorem unvisited_lt (bs : Blocks) (visited : List Nat) (c : Nat) (b : Block) (hg : bs.get? c = some b)
    (hc : c ∉ visited) : unvisited bs (visited ++ [c]) < unvisited bs visited := by
  obtain rfl := Blocks.get?_id hg
  exact ListLemmas.filter_length_lt_of_imp _ _ _
    (fun _ _ hx => ListLemmas.not_contains_eq_true.mpr fun hm => ListLemmas.not_contains_eq_true.mp hx (List.mem_append_left _ hm))
    ⟨b, get?_mem hg, ListLemmas.not_contains_eq_true.mpr hc, by simp⟩

inductive UPath (bs : Blocks) (heads : List Nat) (c : Nat) : Nat → Prop where
  | self : UPath bs heads c c
  | step {y p : Nat} {b : Block} : UPath bs heads c y → bs.get? y = some b →
      isMerged bs heads y b.height = false → p ∈ b.parents → UPath bs heads c p

def Collected (bs : Blocks) (heads : List Nat) (c0 : Nat) (acc : List Block × List Nat) : Prop :=
  (acc.1.map (·.id)).Nodup ∧
  ∀ b ∈ acc.1, b.id ∈ acc.2 ∧ bs.get? b.id = some b ∧ isMerged bs heads b.id b.height = false ∧ UPath bs heads c0 b.id

theorem Collected.visit {bs : Blocks} {heads : List Nat} {c0 : Nat} {coll : List Block} {visited : List Nat}
    (h : Collected bs heads c0 (coll, visited)) (c : Nat) : Collected bs heads c0 (coll, visited ++ [c]) :=
  ⟨h.1, fun b hb => ⟨List.mem_append_left _ (h.2 b hb).1, (h.2 b hb).2⟩⟩

theorem loadComposites_collected (bs : Blocks) (heads : List Nat) (c0 : Nat) (fuel c : Nat)
    (acc : List Block × List Nat) (hc : UPath bs heads c0 c) (h : Collected bs heads c0 acc) :
    Collected bs heads c0 (loadComposites bs heads fuel c acc) := by
  fun_induction loadComposites bs heads fuel c acc with
  | case1 => exact h
  | case2 => exact h
  | case3 => exact h.visit _
  | case4 => exact h.visit _
  | case5 fuel c coll visited hv visited' blk hg hm ih =>
    have hvn : c ∉ visited := by simpa using hv
    have hm' : isMerged bs heads c blk.height = false := by simpa using hm
    obtain rfl := Blocks.get?_id hg
    refine List.foldlRecOn blk.parents _ ⟨?_, ?_⟩ fun a ha p hp => ih a p (UPath.step hc hg hm' hp) ha
    · rw [List.map_cons, List.nodup_cons]
      exact ⟨fun hmem => by
        obtain ⟨b, hb, hbid⟩ := List.mem_map.mp hmem
        exact hvn (hbid ▸ (h.2 b hb).1), h.1⟩
    · intro b hb
      rcases List.mem_cons.mp hb with rfl | hb
      · exact ⟨List.mem_append_right _ (List.mem_singleton.mpr rfl), hg, hm', hc⟩
      · exact (h.visit _).2 b hb

structure WalkPost (bs : Blocks) (heads : List Nat) (c : Nat) (acc res : List Block × List Nat) : Prop where
  vmono : ∀ x ∈ acc.2, x ∈ res.2
  start : c ∈ res.2
  cmono : ∀ b ∈ acc.1, b ∈ res.1
  closed : ∀ x ∈ res.2, x ∉ acc.2 → ∀ b, bs.get? x = some b → isMerged bs heads x b.height = false →
    (∀ p ∈ b.parents, p ∈ res.2) ∧ b ∈ res.1

theorem WalkPost.rfl {bs : Blocks} {heads : List Nat} {c : Nat} {acc : List Block × List Nat} (hc : c ∈ acc.2) :
    WalkPost bs heads c acc acc :=
  ⟨fun _ h => h, hc, fun _ h => h, fun _ hx hnx => absurd hx hnx⟩

theorem WalkPost.visit {bs : Blocks} {heads : List Nat} {c : Nat} {coll : List Block} {visited : List Nat}
    (h : ∀ b, bs.get? c = some b → isMerged bs heads c b.height = true) :
    WalkPost bs heads c (coll, visited) (coll, visited ++ [c]) := by
  refine ⟨fun x hx => List.mem_append_left _ hx, by simp, fun b hb => hb, fun x hx hnx b hb hnm => ?_⟩
  obtain rfl : x = c := by simpa [hnx] using hx
  rw [h b hb] at hnm; cases hnm

theorem WalkPost.trans {bs : Blocks} {heads : List Nat} {c c' : Nat} {acc mid res : List Block × List Nat}
    (h1 : WalkPost bs heads c acc mid) (h2 : WalkPost bs heads c' mid res) : WalkPost bs heads c' acc res := by
  refine ⟨fun x hx => h2.vmono x (h1.vmono x hx), h2.start, fun b hb => h2.cmono b (h1.cmono b hb), ?_⟩
  intro x hx hnx b hb hnm
  by_cases hx1 : x ∈ mid.2
  · obtain ⟨c1, c2⟩ := h1.closed x hx1 hnx b hb hnm
    exact ⟨fun q hq => h2.vmono q (c1 q hq), h2.cmono b c2⟩
  · exact h2.closed x hx hx1 b hb hnm

theorem loadComposites_post (bs : Blocks) (heads : List Nat) (fuel c : Nat) (acc : List Block × List Nat)
    (hfuel : unvisited bs acc.2 < fuel) : WalkPost bs heads c acc (loadComposites bs heads fuel c acc) := by
  fun_induction loadComposites bs heads fuel c acc with
  | case1 => omega
  | case2 _ _ _ _ hv => exact WalkPost.rfl (by simpa using hv)
  | case3 _ c _ visited _ visited' hg => exact .visit fun b hb => by rw [hg] at hb; cases hb
  | case4 _ c _ visited _ visited' blk hg hm =>
    exact .visit fun b hb => by rw [hg] at hb; cases hb; exact hm
  | case5 n c coll visited hv visited' blk hg hm ih =>
    have hvn : c ∉ visited := by simpa using hv
    have hfuel0 : unvisited bs visited' < n :=
      Nat.lt_of_lt_of_le (unvisited_lt bs visited c blk hg hvn) (Nat.le_of_lt_succ hfuel)
    have fold : ∀ (ps : List Nat) (a : List Block × List Nat), unvisited bs a.2 < n → ∀ c0 ∈ a.2,
        WalkPost bs heads c0 a (ps.foldl (fun acc p => loadComposites bs heads n p acc) a) ∧
        ∀ p ∈ ps, p ∈ (ps.foldl (fun acc p => loadComposites bs heads n p acc) a).2 := by
      intro ps
      induction ps with
      | nil => exact fun a _ c0 hc0 => ⟨WalkPost.rfl hc0, fun _ h => nomatch h⟩
      | cons p t iht =>
        intro a ha c0 hc0
        have h1 := ih a p ha
        obtain ⟨t1, t2⟩ := iht _ (Nat.lt_of_le_of_lt (unvisited_mono bs _ _ h1.vmono) ha) c0 (h1.vmono c0 hc0)
        refine ⟨h1.trans t1, fun q hq => ?_⟩
        rcases List.mem_cons.mp hq with rfl | hq
        · exact t1.vmono _ h1.start
        · exact t2 q hq
    have hcv : c ∈ visited' := List.mem_append_right _ (List.mem_singleton.mpr rfl)
    obtain ⟨f, f3⟩ := fold blk.parents (blk :: coll, visited') hfuel0 c hcv
    refine ⟨fun x hx => f.vmono x (List.mem_append_left _ hx), f.start,
      fun b hb => f.cmono b (List.mem_cons_of_mem _ hb), fun x hx hnx b hb hnm => ?_⟩
    by_cases hxc : x = c
    · subst hxc
      rw [hg] at hb; cases hb
      exact ⟨f3, f.cmono _ List.mem_cons_self⟩
    · exact f.closed x hx (by simpa [visited', hnx] using hxc) b hb hnm

theorem walk_reaches (bs : Blocks) (heads : List Nat) (c x : Nat) (hp : UPath bs heads c x) (b : Block)
    (hb : bs.get? x = some b) (hnm : isMerged bs heads x b.height = false) :
    b ∈ (loadComposites bs heads (bs.length + 1) c ([], [])).1 := by
  have post := loadComposites_post bs heads (bs.length + 1) c ([], []) (Nat.lt_succ_of_le (List.length_filter_le _ _))
  have hvis : ∀ x, UPath bs heads c x → x ∈ (loadComposites bs heads (bs.length + 1) c ([], [])).2 := by
    intro x hp
    induction hp with
    | self => exact post.start
    | step _ hg hnm hpar ih => exact (post.closed _ ih (by simp) _ hg hnm).1 _ hpar
  exact (post.closed x (hvis x hp) (by simp) b hb hnm).2

theorem loadComposites_merged_parent (bs : Blocks) (heads : List Nat) (fuel p : Nat) (acc : List Block × List Nat)
    (hp : ∀ pb, bs.get? p = some pb → isMerged bs heads p pb.height = true) :
    (loadComposites bs heads fuel p acc).1 = acc.1 := by
  fun_induction loadComposites bs heads fuel p acc with
  | case1 => rfl
  | case2 => rfl
  | case3 => rfl
  | case4 => rfl
  | case5 _ _ _ _ _ _ blk hg hm => exact absurd (hp blk hg) hm

theorem foldl_merged_parents (bs : Blocks) (heads : List Nat) (n : Nat) : ∀ (ps : List Nat) (acc : List Block × List Nat),
    (∀ p ∈ ps, ∀ pb, bs.get? p = some pb → isMerged bs heads p pb.height = true) →
    (ps.foldl (fun acc p => loadComposites bs heads n p acc) acc).1 = acc.1 :=
  fun ps acc h => List.foldlRecOn (motive := fun a => a.1 = acc.1) ps _ rfl fun a ha p hp =>
    (loadComposites_merged_parent bs heads n p a (h p hp)).trans ha

end Defra.Crdt
