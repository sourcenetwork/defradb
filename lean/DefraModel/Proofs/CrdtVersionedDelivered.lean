import DefraModel.Proofs.CrdtVersionedReplay
import DefraModel.Proofs.CrdtConverge

/-! The versioned read at a commit and a replica delivered that commit alone fold `applyDelta` over the same blocks: the
    stored ancestors-or-self of the commit and what they link. -/
namespace Defra.Crdt

theorem lreach_comp (bs : Blocks) (swf : StoreWF2 bs) (q : Nat) (qb : Block) (hq : bs.get? q = some qb)
    (hk : qb.kind = .comp) (x : Nat) (h : LReach bs q x) : x = q ∨ x ∈ qb.links := by
  induction h with
  | self => exact Or.inl rfl
  | @link y l yb _ hg hl ih =>
    rcases ih with rfl | hy
    · rw [hq] at hg; cases hg; exact Or.inr hl
    · obtain ⟨_, hnl⟩ := swf.fieldLinks _ _ hq hk y hy yb hg
      rw [hnl] at hl; cases hl

theorem versioned_eq_delivered (cx : Ctx) (swf : StoreWF3 cx.blocks)
    (hknown : ∀ l, (cx.blocks.get? l).isSome = true → cx.known l = true)
    (c : Block) (hc : cx.blocks.get? c.id = some c) (hck : c.kind = .comp) :
    versionedVals cx.blocks c.id = ((mergeDoc cx {} c).doc c.doc).vals := by
  have swf2 := swf.base2
  obtain ⟨⟨_, hli, ⟨l, hln, hlm, hlv⟩, hff⟩, _⟩ := mergeDoc_docInv cx swf hknown (fun _ => True)
    (fun _ _ _ _ => trivial) {} c hc hck (docInv_empty cx.blocks) trivial
  obtain ⟨_, _, hreach, _⟩ := mergeDoc_comp cx swf2 hknown {} c hc hck ⟨List.nodup_nil, fun _ h => by cases h⟩
  obtain ⟨ids, hin, hiv, hids⟩ := versionedVals_replays cx.blocks c.id
  -- the replica has merged the stored ancestors-or-self of `c`
  have hR : ∀ t, Reach cx.blocks ((mergeDoc cx {} c).doc c.doc).heads t ↔
      ∃ tb, cx.blocks.get? t = some tb ∧ Anc cx.blocks c.id t := by
    intro t
    rw [hreach t]
    exact ⟨fun h => h.elim (fun h => absurd h (reach_nil _ _)) fun ⟨ha, tb, hg⟩ => ⟨tb, hg, ha⟩,
      fun ⟨tb, hg, ha⟩ => .inr ⟨ha, tb, hg⟩⟩
  -- both sides fold over duplicate-free lists with the same members, the merged blocks
  have hlvn : (ids.filterMap cx.blocks.get?).Nodup :=
    hin.filterMap _ fun _ _ hne b hb b' hb' e => hne (by rw [← Blocks.get?_id hb, ← Blocks.get?_id hb', e])
  have hperm : (ids.filterMap cx.blocks.get?).Perm l := by
    refine (List.perm_ext_iff_of_nodup hlvn (ListLemmas.nodup_of_map _ hln)).mpr fun b => ?_
    rw [hlm b, List.mem_filterMap]
    constructor
    · rintro ⟨i, hi, hgi⟩
      have hid := Blocks.get?_id hgi
      have hst : cx.blocks.get? b.id = some b := by rw [hid]; exact hgi
      obtain ⟨q, qb, hq, ⟨n, hn⟩, hlr⟩ := (hids i).mp hi
      have hqk : qb.kind = .comp := (path_doc cx.blocks swf2 hn c hc hck qb hq).1
      have hqr := (hR q).mpr ⟨qb, hq, n, hn⟩
      rcases lreach_comp cx.blocks swf2 q qb hq hqk i hlr with h | h
      · -- an ancestor itself
        rw [h, hq] at hgi
        cases hgi
        exact ⟨hst, fun e => Kind.noConfusion (hqk.symm.trans e), by rw [hqk, hid, h]; exact hqr⟩
      · -- a block an ancestor links
        obtain ⟨⟨f, hf⟩, _⟩ := swf2.fieldLinks _ _ hq hqk i h b hgi
        exact ⟨hst, fun e => Kind.noConfusion (hf.symm.trans e), by rw [hid]; exact hli q qb hq hqk hqr i h b hgi⟩
    · rintro ⟨hst, hnc, hr⟩
      refine ⟨b.id, (hids b.id).mpr ?_, hst⟩
      cases hk : b.kind with
      | col => exact absurd hk hnc
      | comp =>
        rw [hk] at hr
        obtain ⟨_, _, hanc⟩ := (hR b.id).mp hr
        exact ⟨b.id, b, hst, hanc, LReach.self⟩
      | field f =>
        rw [hk] at hr
        obtain ⟨a, ab, hga, _, hra, hl⟩ := hff b f hst hk hr
        obtain ⟨_, _, hanc⟩ := (hR a).mp hra
        exact ⟨a, ab, hga, hanc, LReach.link LReach.self hga hl⟩
  rw [hiv, hlv]
  exact foldl_applyDelta_perm {} _ _ hperm

end Defra.Crdt
