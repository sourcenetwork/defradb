/- Strings, floats, times. One `dec_body` for both directions; a float's ascending code depends on its key alone. -/
import DefraModel.Encoding.Scalars
import DefraModel.Proofs.IntOrder
namespace Defra.Enc
open Defra.Bytes

theorem escBody_isBytes : ∀ (d : Bytes), IsBytes d → IsBytes (escBody d)
  | [], _ => isBytes_nil
  | x :: xs, h => by
    obtain ⟨hx, hxs⟩ := isBytes_cons_iff.mp h
    have ih := escBody_isBytes xs hxs
    by_cases h0 : x = 0
    · rw [escBody, if_pos h0]; exact isBytes_cons (by omega) (isBytes_cons (by omega) ih)
    · rw [escBody, if_neg h0]; exact isBytes_cons hx ih

theorem escaped_isBytes (d : Bytes) (h : IsBytes d) : IsBytes (escBody d ++ [0, 1]) :=
  isBytes_append (escBody_isBytes d h) (isBytes_cons (by omega) (isBytes_cons (by omega) isBytes_nil))

theorem esc_slt : ∀ (a b : Bytes), lt a b = true →
    slt (escBody a ++ [0, 1]) (escBody b ++ [0, 1]) = true
  | [], [], h => by simp at h
  | [], y :: bs, _ => by
    -- `00 01` is below `00 ff` and below any non-zero byte
    by_cases hy : y = 0
    · rw [escBody, escBody, if_pos hy]
      exact slt_cons_iff.mpr (Or.inr ⟨rfl, slt_of_head_lt (by decide) _ _⟩)
    · rw [escBody, escBody, if_neg hy]
      exact slt_of_head_lt (Nat.pos_of_ne_zero hy) _ _
  | _ :: _, [], h => by simp at h
  | x :: as, y :: bs, h => by
    rw [lt_cons_iff] at h
    rw [escBody, escBody]
    rcases h with h | ⟨rfl, h⟩
    · rw [if_neg (show ¬ y = 0 by omega)]
      by_cases hx : x = 0
      · rw [if_pos hx]; exact slt_of_head_lt (by omega) _ _
      · rw [if_neg hx]; exact slt_of_head_lt h _ _
    · have ih := esc_slt as bs h
      by_cases hx : x = 0
      · rw [if_pos hx, if_pos hx]; simpa using ih
      · rw [if_neg hx, if_neg hx]; simpa using ih

theorem bytesAsc_mono (a b : Bytes) (h : lt a b = true) : slt (bytesAsc a) (bytesAsc b) = true := by
  simp [bytesAsc, esc_slt a b h]

theorem bytesDesc_anti (a b : Bytes) (ha : IsBytes a) (hb : IsBytes b) (h : lt a b = true) :
    slt (bytesDesc b) (bytesDesc a) = true := by
  rw [bytesDesc, bytesDesc, slt_cons_same]
  exact slt_compl _ _ (escaped_isBytes a ha) (escaped_isBytes b hb) (esc_slt a b h)

/-- `φ = id` ascending, `(255 - ·)` descending; `decBody`'s parameters are `φ` of the ascending four -/
theorem dec_body (φ : Nat → Nat) (h1 : φ 1 ≠ φ 255) :
    ∀ (d r : Bytes), (∀ x ∈ d, x ≠ 0 → φ x ≠ φ 0) →
      decBody (φ 0) (φ 1) (φ 255) (φ 0) ((escBody d ++ [0, 1]).map φ ++ r) = some (d.map φ, r)
  | [], r, _ => by simp [escBody, decBody]
  | x :: xs, r, h => by
    have ih := dec_body φ h1 xs r (fun y hy => h y (List.mem_cons_of_mem _ hy))
    by_cases hx : x = 0
    · subst hx
      have : ¬ φ 255 = φ 1 := fun e => h1 e.symm
      simp only [List.map_append, List.map_cons, List.map_nil, List.append_assoc, List.cons_append,
        List.nil_append] at ih
      simp [escBody, decBody, ih, this]
    · have hne := h x List.mem_cons_self hx
      obtain ⟨y, rest, hyr⟩ : ∃ y rest, (escBody xs ++ [0, 1]).map φ ++ r = y :: rest := by
        cases escBody xs <;> exact ⟨_, _, rfl⟩
      rw [escBody, if_neg hx, List.cons_append, List.map_cons, List.cons_append, hyr]
      rw [hyr] at ih
      simp [decBody, hne, ih]

theorem dec_bytesAsc (d r : Bytes) : decBytesAsc (bytesAsc d ++ r) = some (d, r) := by
  have := dec_body id (by decide) d r (fun x _ hx => hx)
  simp only [List.map_id, id] at this
  simp only [bytesAsc, List.cons_append, decBytesAsc, if_true]
  simpa using this

theorem dec_bytesDesc (d r : Bytes) (h : IsBytes d) : decBytesDesc (bytesDesc d ++ r) = some (d, r) := by
  have := dec_body (fun x => 255 - x) (by decide) d r (fun x hx h0 => by have := h x hx; omega)
  simp only [Nat.sub_zero] at this
  simp only [bytesDesc, List.cons_append, decBytesDesc, if_true, compl]
  rw [this]
  simpa [compl] using compl_compl d h

/-- what the proofs need of a format: marker order/distinctness and byte width -/
structure FFmt.Good (f : FFmt) : Prop where
  nan_pos : 0 < f.nan
  nan_lo : f.nan < f.neg
  neg_zero : f.neg < f.zero
  zero_pos : f.zero < f.pos
  nanDesc_hi : f.pos < f.nanDesc
  nanDesc_lt : f.nanDesc < 255
  bytesW : 256 ^ f.bytes = 2 ^ f.width

theorem f64_good : f64.Good := by
  constructor <;> simp [f64, FFmt.width, FFmt.bytes]

theorem f32_good : f32.Good := by
  constructor <;> simp [f32, FFmt.width, FFmt.bytes]

theorem FFmt.two_sign (f : FFmt) : 2 ^ f.width = 2 * f.signBit := by
  unfold FFmt.width FFmt.signBit
  rw [Nat.add_assoc, Nat.add_comm 1, Nat.pow_succ]; omega

theorem FFmt.sign_pos (f : FFmt) : 0 < f.signBit := Nat.pow_pos (by decide)

theorem FFmt.mag_eq (f : FFmt) (u : Nat) (hu : u < 2 ^ f.width) :
    f.mag u = if u ≥ f.signBit then u - f.signBit else u := by
  have h2 := f.two_sign
  unfold FFmt.mag
  by_cases h : u ≥ f.signBit
  · rw [if_pos h, Nat.mod_eq_sub_mod h, Nat.mod_eq_of_lt (by omega)]
  · rw [if_neg h, Nat.mod_eq_of_lt (by omega)]

theorem FFmt.mag_negate (f : FFmt) (u : Nat) (hu : u < 2 ^ f.width) :
    f.negate u < 2 ^ f.width ∧ f.mag (f.negate u) = f.mag u ∧ f.isNeg (f.negate u) = !f.isNeg u := by
  have h2 := f.two_sign
  have hp := f.sign_pos
  unfold FFmt.negate FFmt.isNeg FFmt.mag
  by_cases h : u ≥ f.signBit
  · rw [decide_eq_true h, if_pos rfl]
    exact ⟨by omega, (Nat.mod_eq_sub_mod h).symm, by simp; omega⟩
  · rw [decide_eq_false h, if_neg Bool.false_ne_true]
    exact ⟨by omega, Nat.add_mod_right _ _, by simp⟩

theorem FFmt.key_negate (f : FFmt) (u : Nat) (hu : u < 2 ^ f.width) : f.key (f.negate u) = - f.key u := by
  obtain ⟨_, hm, hn⟩ := f.mag_negate u hu
  unfold FFmt.key
  rw [hm, hn]
  cases f.isNeg u <;> simp

theorem FFmt.isNaN_negate (f : FFmt) (u : Nat) (hu : u < 2 ^ f.width) : f.isNaN (f.negate u) = f.isNaN u := by
  unfold FFmt.isNaN; rw [(f.mag_negate u hu).2.1]

theorem FFmt.key_bound (f : FFmt) (u : Nat) : -(f.signBit : Int) < f.key u ∧ f.key u < f.signBit := by
  have := Nat.mod_lt u f.sign_pos
  unfold FFmt.key FFmt.mag
  cases f.isNeg u <;> simp <;> omega

/-- the ascending code as a function of the key: marker by sign, then magnitude (`signBit - 1 - mag`, Go's `^bits`,
    when negative) -/
def keyAsc (f : FFmt) (k : Int) : Bytes :=
  if k = 0 then [f.zero]
  else if k < 0 then f.neg :: be f.bytes (f.signBit - 1 - k.natAbs)
  else f.pos :: be f.bytes k.natAbs

theorem keyAsc_neg (f : FFmt) {k : Int} (h : k < 0) :
    keyAsc f k = f.neg :: be f.bytes (f.signBit - 1 - k.natAbs) := by
  rw [keyAsc, if_neg (Int.ne_of_lt h), if_pos h]

theorem keyAsc_pos (f : FFmt) {k : Int} (h : 0 < k) : keyAsc f k = f.pos :: be f.bytes k.natAbs := by
  rw [keyAsc, if_neg (Int.ne_of_gt h), if_neg (Int.not_lt.mpr (Int.le_of_lt h))]

theorem floatAsc_key (f : FFmt) (u : Nat) (hu : u < 2 ^ f.width) (nu : f.isNaN u = false) :
    floatAsc f u = keyAsc f (f.key u) := by
  have h2 := f.two_sign
  have mu := f.mag_eq u hu
  unfold floatAsc FFmt.key FFmt.isZero FFmt.isNeg
  rw [nu, if_neg Bool.false_ne_true]
  by_cases z : f.mag u = 0
  · rw [decide_eq_true z, if_pos rfl, z]
    cases decide (u ≥ f.signBit) <;> rfl
  · have zp : (0 : Int) < f.mag u := Int.natCast_pos.mpr (Nat.pos_of_ne_zero z)
    rw [decide_eq_false z, if_neg Bool.false_ne_true]
    by_cases s : u ≥ f.signBit
    · rw [if_pos s] at mu
      rw [decide_eq_true s, if_pos rfl, if_pos rfl, keyAsc_neg f (Int.neg_neg_of_pos zp), Int.natAbs_neg,
        Int.natAbs_natCast]
      congr 2; omega
    · rw [if_neg s] at mu
      rw [decide_eq_false s, if_neg Bool.false_ne_true, if_neg Bool.false_ne_true, keyAsc_pos f zp,
        Int.natAbs_natCast, mu]

theorem keyAsc_mono (f : FFmt) (g : f.Good) (a b : Int) (ha : -(f.signBit : Int) < a) (hb : b < f.signBit)
    (h : a < b) : slt (keyAsc f a) (keyAsc f b) = true := by
  have hw : 256 ^ f.bytes = 2 * f.signBit := g.bytesW.trans f.two_sign
  rcases Int.lt_trichotomy a 0 with a0 | rfl | a0
  · rw [keyAsc_neg f a0]
    rcases Int.lt_trichotomy b 0 with b0 | rfl | b0
    · rw [keyAsc_neg f b0, slt_cons_same]
      exact be_lt (by omega) (by omega)
    · exact slt_of_head_lt g.neg_zero _ _
    · rw [keyAsc_pos f b0]
      exact slt_of_head_lt (Nat.lt_trans g.neg_zero g.zero_pos) _ _
  · rw [keyAsc_pos f h]
    exact slt_of_head_lt g.zero_pos _ _
  · rw [keyAsc_pos f a0, keyAsc_pos f (Int.lt_trans a0 h), slt_cons_same]
    exact be_lt (by omega) (by omega)

theorem floatAsc_mono (f : FFmt) (g : f.Good) (u v : Nat) (hu : u < 2 ^ f.width) (hv : v < 2 ^ f.width)
    (nu : f.isNaN u = false) (nv : f.isNaN v = false) (h : f.key u < f.key v) :
    slt (floatAsc f u) (floatAsc f v) = true := by
  rw [floatAsc_key f u hu nu, floatAsc_key f v hv nv]
  exact keyAsc_mono f g _ _ (f.key_bound u).1 (f.key_bound v).2 h

theorem floatDesc_anti (f : FFmt) (g : f.Good) (u v : Nat) (hu : u < 2 ^ f.width) (hv : v < 2 ^ f.width)
    (nu : f.isNaN u = false) (nv : f.isNaN v = false) (h : f.key u < f.key v) :
    slt (floatDesc f v) (floatDesc f u) = true := by
  unfold floatDesc
  simp only [nu, nv, Bool.false_eq_true, if_false]
  apply floatAsc_mono f g _ _ (f.mag_negate v hv).1 (f.mag_negate u hu).1
  · rw [f.isNaN_negate v hv]; exact nv
  · rw [f.isNaN_negate u hu]; exact nu
  · rw [f.key_negate u hu, f.key_negate v hv]; omega

/-- the trichotomy hypothesis `tri` of `C17.lt_iff_enc_lt`, for floats of one format -/
theorem float_tri (f : FFmt) (a b : Nat) (ha : a < 2 ^ f.width ∧ f.isNaN a = false)
    (hb : b < 2 ^ f.width ∧ f.isNaN b = false) :
    f.key a < f.key b ∨ floatAsc f a = floatAsc f b ∨ f.key b < f.key a :=
  (Int.lt_trichotomy (f.key a) (f.key b)).imp_right (Or.imp_left fun h => by
    rw [floatAsc_key f a ha.1 ha.2, floatAsc_key f b hb.1 hb.2, h])

theorem float_form (f : FFmt) (g : f.Good) (d : Bool) (u : Nat) :
    ∃ t w x, (if d then floatDesc f u else floatAsc f u) = t :: be w x ∧ 0 < t ∧ t < 255 := by
  have := g.nan_pos; have := g.nan_lo; have := g.neg_zero; have := g.zero_pos
  have := g.nanDesc_hi; have := g.nanDesc_lt
  have asc : ∀ u, ∃ t w x, floatAsc f u = t :: be w x ∧ 0 < t ∧ t < 255 := by
    intro u
    unfold floatAsc
    by_cases h1 : f.isNaN u
    · exact ⟨_, 0, 0, if_pos h1, by omega⟩
    rw [if_neg h1]
    by_cases h2 : f.isZero u
    · exact ⟨_, 0, 0, if_pos h2, by omega⟩
    rw [if_neg h2]
    by_cases h3 : f.isNeg u
    · exact ⟨_, _, _, if_pos h3, by omega⟩
    · exact ⟨_, _, _, if_neg h3, by omega⟩
  cases d
  · exact asc u
  · unfold floatDesc
    by_cases h1 : f.isNaN u
    · exact ⟨_, 0, 0, (if_pos rfl).trans (if_pos h1), by omega⟩
    · obtain ⟨t, w, x, e, h⟩ := asc (f.negate u)
      exact ⟨t, w, x, (if_pos rfl).trans ((if_neg h1).trans e), h⟩

theorem float_isBytes (f : FFmt) (g : f.Good) (d : Bool) (u : Nat) :
    IsBytes (if d then floatDesc f u else floatAsc f u) := by
  obtain ⟨t, w, x, e, _, h⟩ := float_form f g d u
  rw [e]; exact isBytes_cons (by omega) (be_isBytes _ _)

theorem timeAsc_mono (s n s' n' : Int) (hs : -(2 ^ 63) ≤ s) (hs' : s' < 2 ^ 63) (hn : -(2 ^ 63) ≤ n) (hn' : n' < 2 ^ 63)
    (h : s < s' ∨ (s = s' ∧ n < n')) :
    slt (timeAsc s n) (timeAsc s' n') = true := by
  rw [timeAsc, timeAsc, slt_cons_same]
  rcases h with h | ⟨rfl, h⟩
  · exact slt_append _ _ _ _ (varintAsc_mono s s' hs hs' h)
  · rw [slt_prefix]; exact varintAsc_mono n n' hn hn' h

theorem timeDesc_anti (s n s' n' : Int) (hs : -(2 ^ 63) ≤ s) (hs' : s' < 2 ^ 63) (hn : -(2 ^ 63) ≤ n) (hn' : n' < 2 ^ 63)
    (h : s < s' ∨ (s = s' ∧ n < n')) :
    slt (timeDesc s' n') (timeDesc s n) = true :=
  -- `timeDesc s n` is `timeAsc (inot s) (inot n)`
  timeAsc_mono (inot s') (inot n') (inot s) (inot n) (inot_lower hs') (inot_upper hs) (inot_lower hn') (inot_upper hn)
    (h.imp (inot_anti s s').mp (fun ⟨e, l⟩ => ⟨congrArg inot e.symm, (inot_anti n n').mp l⟩))

theorem nanos_lower {n : Int} (h : 0 ≤ n) : -(2 ^ 63) ≤ n := by omega

theorem nanos_upper {n : Int} (h : n < 1000000000) : n < 2 ^ 63 := by omega

theorem normTime_id (s n : Int) (h0 : 0 ≤ n) (h1 : n < 1000000000) : normTime s n = (s, n) := by
  unfold normTime
  rw [Int.ediv_eq_zero_of_lt h0 h1, Int.emod_eq_of_lt h0 h1]; simp

theorem dec_timeAsc (s n : Int) (hl : -(2 ^ 63) ≤ s) (hu : s < 2 ^ 63) (h0 : 0 ≤ n) (h1 : n < 1000000000) (r : Bytes) :
    decTimeAsc (timeAsc s n ++ r) = some ((s, n), r) := by
  simp only [timeAsc, List.cons_append, decTimeAsc, if_true, List.append_assoc]
  rw [dec_varintAsc s hl hu]
  simp only
  rw [dec_varintAsc n (nanos_lower h0) (nanos_upper h1)]
  simp [normTime_id s n h0 h1]

theorem dec_timeDesc (s n : Int) (hl : -(2 ^ 63) ≤ s) (hu : s < 2 ^ 63) (h0 : 0 ≤ n) (h1 : n < 1000000000) (r : Bytes) :
    decTimeDesc (timeDesc s n ++ r) = some ((s, n), r) := by
  simp only [timeDesc, List.cons_append, decTimeDesc, if_true, List.append_assoc]
  rw [dec_varintAsc _ (inot_lower hu) (inot_upper hl)]
  simp only
  rw [dec_varintAsc _ (inot_lower (nanos_upper h1)) (inot_upper (nanos_lower h0))]
  simp [inot_inot, normTime_id s n h0 h1]

end Defra.Enc
