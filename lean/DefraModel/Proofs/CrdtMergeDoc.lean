import DefraModel.Proofs.CrdtIsMerged
import DefraModel.Proofs.CrdtHeads

/-!
One delivered commit as a fold: the blocks the walk collected (`WalkFacts`) are processed one by one by `docStep`, which
skips a merged block and applies the others. `fold_docStep` follows every head set and the values through such a
sequence; it asks of the head sets only what concerns the kinds processed, so it serves the composite level and the
whole document alike.
-/
namespace Defra.Crdt

theorem Reach.mono {bs : Blocks} {heads heads' : List Nat} (h : ∀ x ∈ heads, Reach bs heads' x) {t : Nat}
    (hr : Reach bs heads t) : Reach bs heads' t := by
  induction hr with
  | head hx => exact h _ hx
  | parent _ hg hp ih => exact .parent ih hg hp

theorem reach_updateHeads (bs : Blocks) (heads : List Nat) (b : Block) (hn : heads.Nodup)
    (hget : bs.get? b.id = some b)
    (hpar : ∀ p ∈ b.parents, Reach bs heads p) (hlinks : ∀ l ∈ b.links, l ∉ heads) (t : Nat) :
    Reach bs (updateHeads (fun _ => true) heads b) t ↔ (Reach bs heads t ∨ t = b.id) := by
  have hmem := updateHeads_mem heads b hn
  have hb : Reach bs (updateHeads (fun _ => true) heads b) b.id := .head ((hmem _).mpr (.inl rfl))
  constructor
  · intro h
    induction h with
    | head hx => exact ((hmem _).mp hx).symm.imp (fun h => .head h.1) id
    | parent _ hg hp ih =>
      refine ih.elim (fun h => .inl (.parent h hg hp)) fun e => ?_
      subst e
      rw [hget] at hg; cases hg
      exact .inl (hpar _ hp)
  · rintro (h | rfl)
    · -- an old head named as parent is reached through `b`, the others stay heads
      refine h.mono fun x hx => ?_
      by_cases hxp : x ∈ b.parents
      · exact .parent hb hget hxp
      · exact .head ((hmem _).mpr (.inr ⟨hx, fun hm => (List.mem_append.mp hm).elim hxp fun hl => hlinks _ hl hx⟩))
    · exact hb

/-- `applyDelta` of a composite, on the delete marker alone -/
def markerOf (b : Block) (m : Option Bool) : Option Bool :=
  match b.delta with
  | .comp d => markerMerge m d
  | _ => m

def Comp (bs : Blocks) (x : Nat) : Prop := ∃ b, bs.get? x = some b ∧ b.kind = .comp

/-- the block store of C04, as far as composites go -/
structure StoreWF (bs : Blocks) : Prop where
  wf : WellFormed bs
  compParents : ∀ y b, bs.get? y = some b → b.kind = .comp → ∀ p ∈ b.parents, Comp bs p
  compLinks : ∀ y b, bs.get? y = some b → b.kind = .comp → ∀ l ∈ b.links, ¬ Comp bs l

def HInv (bs : Blocks) (heads : List Nat) : Prop := heads.Nodup ∧ ∀ h ∈ heads, Comp bs h

theorem upath_anc (bs : Blocks) (heads : List Nat) (c x : Nat) (h : UPath bs heads c x) : Anc bs c x := by
  induction h with
  | self => exact ⟨0, Path.zero⟩
  | step _ hg _ hp ih =>
    obtain ⟨n, hn⟩ := ih
    exact ⟨n + 1, hn.snoc hg hp⟩

theorem reach_path_closed (bs : Blocks) (heads : List Nat) {y t n : Nat} (hp : Path bs y t n)
    (hr : Reach bs heads y) : Reach bs heads t := by
  induction hp with
  | zero => exact hr
  | succ hg hpar _ ih => exact ih (Reach.parent hr hg hpar)

theorem path_upath (bs : Blocks) (heads : List Nat) (c : Nat) {y t n : Nat} (hp : Path bs y t n)
    (hu : UPath bs heads c y) (hnr : ¬ Reach bs heads t) : UPath bs heads c t := by
  induction hp with
  | zero => exact hu
  | @succ y p t b n hg hpar hrest ih =>
    have hnm : isMerged bs heads y b.height = false :=
      isMerged_eq_false_of_not_reach _ fun h => hnr (reach_path_closed bs heads (Path.succ hg hpar hrest) h)
    exact ih (UPath.step hu hg hnm hpar) hnr

theorem path_inherit {bs : Blocks} (wf : WellFormed bs) (P : Block → Prop)
    (hP : ∀ y b, bs.get? y = some b → P b → ∀ p ∈ b.parents, ∀ pb, bs.get? p = some pb → P pb)
    {y t n : Nat} (h : Path bs y t n) : ∀ yb, bs.get? y = some yb → P yb → ∀ tb, bs.get? t = some tb → P tb := by
  induction h with
  | zero => intro yb h1 hp tb h2; rw [h1] at h2; cases h2; exact hp
  | @succ y p t b n hg hp _ ih =>
    intro yb h1 hpy tb h2
    rw [hg] at h1; cases h1
    obtain ⟨pb, hpb, _⟩ := wf y _ hg p hp
    exact ih pb hpb (hP y _ hg hpy p hp pb hpb) tb h2

/-- what the walk and the sort hand to the processing loop -/
structure WalkFacts (bs : Blocks) (heads : List Nat) (c : Nat) (L : List Block) : Prop where
  nodup : (L.map (·.id)).Nodup
  sorted : L.Pairwise (fun x y => x.height ≤ y.height)
  mem : ∀ b, b ∈ L ↔ (bs.get? b.id = some b ∧ Anc bs c b.id ∧ ¬ Reach bs heads b.id)
  comp : ∀ b ∈ L, b.kind = .comp
  parents : ∀ b ∈ L, ∀ p ∈ b.parents, Reach bs heads p ∨ p ∈ L.map (·.id)

theorem walk_facts (bs : Blocks) (swf : StoreWF bs) (heads : List Nat) (c : Nat) (hc : Comp bs c) :
    WalkFacts bs heads c (sortByHeight (loadComposites bs heads (bs.length + 1) c ([], [])).1) := by
  have hcoll := loadComposites_collected bs heads c (bs.length + 1) c ([], []) .self
    ⟨List.nodup_nil, fun _ h => nomatch h⟩
  have hperm := sortByHeight_perm (loadComposites bs heads (bs.length + 1) c ([], [])).1
  have hmem : ∀ b, b ∈ sortByHeight (loadComposites bs heads (bs.length + 1) c ([], [])).1 ↔
      (bs.get? b.id = some b ∧ Anc bs c b.id ∧ ¬ Reach bs heads b.id) := by
    intro b
    rw [hperm.mem_iff]
    constructor
    · intro hb
      obtain ⟨_, h1, h2, h3⟩ := hcoll.2 b hb
      exact ⟨h1, upath_anc bs heads c b.id h3, (isMerged_eq_false_iff swf.wf _ h1).mp h2⟩
    · rintro ⟨h1, ⟨n, hn⟩, h3⟩
      exact walk_reaches bs heads c b.id (path_upath bs heads c hn .self h3) b h1
        (isMerged_eq_false_of_not_reach _ h3)
  refine ⟨(hperm.map _).nodup_iff.mpr hcoll.1, sortByHeight_sorted _, hmem, fun b hb => ?_, fun b hb p hp => ?_⟩
  · obtain ⟨h1, ⟨n, hn⟩, _⟩ := (hmem b).mp hb
    obtain ⟨cb, hcb, hck⟩ := hc
    refine path_inherit swf.wf (·.kind = .comp) (fun y yb hy hk p hp pb hpb => ?_) hn cb hcb hck b h1
    obtain ⟨pb', h, hk'⟩ := swf.compParents y yb hy hk p hp
    rw [hpb] at h; cases h; exact hk'
  · obtain ⟨h1, ⟨n, hn⟩, _⟩ := (hmem b).mp hb
    obtain ⟨pb, hpb, _⟩ := swf.wf b.id b h1 p hp
    obtain rfl := Blocks.get?_id hpb
    exact (Classical.em _).imp_right fun hr =>
      List.mem_map.mpr ⟨pb, (hmem pb).mpr ⟨hpb, ⟨n + 1, hn.snoc h1 hp⟩, hr⟩, rfl⟩

theorem mergeDoc_eq (cx : Ctx) (r : Replica) (c : Block) :
    mergeDoc cx r c =
      (sortByHeight (loadComposites cx.blocks (r.doc c.doc).heads (cx.blocks.length + 1) c.id ([], [])).1).foldl
        (fun r b => processBlock cx 4 r b) r := rfl

/-- `processBlock` on one block of a document, without its links -/
def docStep (bs : Blocks) (known : Nat → Bool) (s : DocState) (e : Block) : DocState :=
  if isMerged bs (headsOf s e.kind) e.id e.height then s
  else setHeadsOf { s with vals := applyDelta s.vals e } e.kind (updateHeads known (headsOf s e.kind) e)

def KInv (bs : Blocks) (s : DocState) : Prop :=
  ∀ x ∈ bs, (headsOf s x.kind).Nodup ∧ ∀ h ∈ headsOf s x.kind, ∃ b, bs.get? h = some b ∧ b.kind = x.kind

/-- `KInv` for one kind; `HInv` is the case `.comp` -/
def KInvOn (bs : Blocks) (s : DocState) (k : Kind) : Prop :=
  (headsOf s k).Nodup ∧ ∀ h ∈ headsOf s k, ∃ b, bs.get? h = some b ∧ b.kind = k

structure ElemOK (bs : Blocks) (e : Block) : Prop where
  stored : bs.get? e.id = some e
  notCol : e.kind ≠ .col
  parentsKind : ∀ p ∈ e.parents, ∀ pb, bs.get? p = some pb → pb.kind = e.kind
  linksKind : ∀ l ∈ e.links, ∀ lb, bs.get? l = some lb → lb.kind ≠ e.kind

/-- each block's parents are merged before (`R0`) or processed earlier (`D`) -/
def ParentsFirst (R0 : Kind → Nat → Prop) : List Block → List Block → Prop
  | _, [] => True
  | D, e :: tl => (∀ p ∈ e.parents, R0 e.kind p ∨ p ∈ D.map (·.id)) ∧ ParentsFirst R0 (D ++ [e]) tl

def unmergedAt (bs : Blocks) (s0 : DocState) (e : Block) : Bool :=
  !isMerged bs (headsOf s0 e.kind) e.id e.height

/-- the situation in which `docStep` applies a block -/
structure GoodStep (bs : Blocks) (s : DocState) (e : Block) : Prop where
  stored : bs.get? e.id = some e
  notCol : e.kind ≠ .col
  unmerged : ¬ Reach bs (headsOf s e.kind) e.id
  parents : ∀ p ∈ e.parents, Reach bs (headsOf s e.kind) p
  notSelf : e.id ∉ e.parents ++ e.links
  links : ∀ l ∈ e.links, l ∉ headsOf s e.kind
  nodup : (headsOf s e.kind).Nodup

/-- the else-branch of `docStep`, every parent and link available -/
def applied (s : DocState) (e : Block) : DocState :=
  setHeadsOf { s with vals := applyDelta s.vals e } e.kind (updateHeads (fun _ => true) (headsOf s e.kind) e)

/-- first occurrences: equal field blocks are one content-addressed block and may be linked by several composites -/
def addFirst (bs : Blocks) (s0 : DocState) (acc : List Block) (e : Block) : List Block :=
  if unmergedAt bs s0 e && !(acc.any (·.id == e.id)) then acc ++ [e] else acc

def appliedSeq (bs : Blocks) (s0 : DocState) (seq : List Block) : List Block := seq.foldl (addFirst bs s0) []

theorem appliedSeq_snoc (bs : Blocks) (s0 : DocState) (D : List Block) (e : Block) :
    appliedSeq bs s0 (D ++ [e]) = addFirst bs s0 (appliedSeq bs s0 D) e := by
  unfold appliedSeq; rw [List.foldl_append]; rfl

theorem unmergedAt_iff {bs : Blocks} (wf : WellFormed bs) (s0 : DocState) {e : Block} (he : bs.get? e.id = some e) :
    unmergedAt bs s0 e = true ↔ ¬ Reach bs (headsOf s0 e.kind) e.id := by
  rw [unmergedAt, Bool.not_eq_true', isMerged_eq_false_iff wf _ he]

theorem addFirst_eq (bs : Blocks) (s0 : DocState) (acc : List Block) (e : Block) :
    addFirst bs s0 acc e = if unmergedAt bs s0 e = true ∧ ∀ y ∈ acc, y.id ≠ e.id then acc ++ [e] else acc := by
  simp only [addFirst, Bool.and_eq_true, Bool.not_eq_true', List.any_eq_false, beq_iff_eq]

theorem exists_mem_foldl_addFirst (bs : Blocks) (s0 : DocState) (i : Nat) (D acc : List Block) :
    (∃ x ∈ D.foldl (addFirst bs s0) acc, x.id = i) ↔
      ((∃ x ∈ acc, x.id = i) ∨ ∃ b ∈ D, b.id = i ∧ unmergedAt bs s0 b = true) := by
  induction D generalizing acc with
  | nil => exact (or_iff_left fun ⟨_, h, _⟩ => absurd h List.not_mem_nil).symm
  | cons d t ih =>
    rw [List.foldl_cons, ih, addFirst_eq]
    simp only [List.mem_cons, exists_eq_or_imp]
    rw [← or_assoc]
    refine or_congr_left ?_
    by_cases hc : unmergedAt bs s0 d = true ∧ ∀ y ∈ acc, y.id ≠ d.id
    · rw [if_pos hc, ListLemmas.exists_mem_snoc, and_iff_left hc.1]
    · rw [if_neg hc]
      -- `d` is merged, or its identifier is in `acc` already
      refine (or_iff_left_of_imp ?_).symm
      rintro ⟨rfl, hu⟩
      exact Classical.byContradiction fun hn => hc ⟨hu, fun y hy e => hn ⟨y, hy, e⟩⟩

theorem exists_mem_appliedSeq (bs : Blocks) (s0 : DocState) (D : List Block) (i : Nat) :
    (∃ x ∈ appliedSeq bs s0 D, x.id = i) ↔ ∃ b ∈ D, b.id = i ∧ unmergedAt bs s0 b = true :=
  (exists_mem_foldl_addFirst bs s0 i D []).trans (or_iff_right fun ⟨_, h, _⟩ => absurd h List.not_mem_nil)

theorem mem_appliedSeq {bs : Blocks} {s0 : DocState} {D : List Block} {x : Block} (h : x ∈ appliedSeq bs s0 D) :
    x ∈ D ∧ unmergedAt bs s0 x = true := by
  refine List.foldlRecOn (motive := fun (r : List Block) => ∀ x ∈ r, x ∈ D ∧ unmergedAt bs s0 x = true) D _
    (fun _ h => absurd h List.not_mem_nil) (fun r hr d hd x hx => ?_) x h
  rw [addFirst_eq] at hx
  by_cases hc : unmergedAt bs s0 d = true ∧ ∀ y ∈ r, y.id ≠ d.id
  · rw [if_pos hc] at hx
    rcases List.mem_append.mp hx with hx | hx
    · exact hr x hx
    · obtain rfl := List.mem_singleton.mp hx
      exact ⟨hd, hc.1⟩
  · rw [if_neg hc] at hx
    exact hr x hx

theorem appliedSeq_nodup (bs : Blocks) (s0 : DocState) (D : List Block) : ((appliedSeq bs s0 D).map (·.id)).Nodup := by
  refine List.foldlRecOn (motive := fun (r : List Block) => (r.map (·.id)).Nodup) D (addFirst bs s0)
    (b := []) List.nodup_nil fun r hr d _ => ?_
  rw [addFirst_eq]
  by_cases hc : unmergedAt bs s0 d = true ∧ ∀ y ∈ r, y.id ≠ d.id
  · rw [if_pos hc, List.map_append, List.nodup_append]
    refine ⟨hr, List.nodup_cons.mpr ⟨List.not_mem_nil, List.nodup_nil⟩, fun a ha b hb => ?_⟩
    obtain ⟨y, hy, rfl⟩ := List.mem_map.mp ha
    obtain rfl := List.mem_singleton.mp hb
    exact hc.2 y hy
  · rw [if_neg hc]
    exact hr

theorem foldl_addFirst_all (bs : Blocks) (s0 : DocState) : ∀ (L acc : List Block),
    ((acc ++ L).map (·.id)).Nodup → (∀ b ∈ L, unmergedAt bs s0 b = true) → L.foldl (addFirst bs s0) acc = acc ++ L := by
  intro L
  induction L with
  | nil => intro acc _ _; simp
  | cons b tl ih =>
    intro acc hn hu
    have hnew : ∀ y ∈ acc, y.id ≠ b.id := fun y hy => by
      rw [List.map_append, List.map_cons] at hn
      exact (List.nodup_append.mp hn).2.2 _ (List.mem_map.mpr ⟨y, hy, rfl⟩) _ List.mem_cons_self
    rw [List.foldl_cons, addFirst_eq, if_pos ⟨hu b List.mem_cons_self, hnew⟩,
      ih _ (by simpa using hn) (fun x hx => hu x (List.mem_cons_of_mem _ hx)), List.append_assoc]
    rfl

theorem headsOf_setHeadsOf (s : DocState) (k k' : Kind) (h : List Nat) (hk : k ≠ .col) :
    headsOf (setHeadsOf s k h) k' = if k' = k then h else headsOf s k' := by
  cases k with
  | col => exact absurd rfl hk
  | comp => cases k' <;> simp [headsOf, setHeadsOf]
  | field f => cases k' <;> simp [headsOf, setHeadsOf]

theorem headsOf_vals (s : DocState) (v : Vals) (k : Kind) : headsOf { s with vals := v } k = headsOf s k := by
  cases k <;> rfl

theorem vals_setHeadsOf (s : DocState) (k : Kind) (h : List Nat) : (setHeadsOf s k h).vals = s.vals := by
  cases k <;> rfl

theorem headsOf_applied (s : DocState) (e : Block) (hk : e.kind ≠ .col) (k : Kind) :
    headsOf (applied s e) k =
      if k = e.kind then updateHeads (fun _ => true) (headsOf s e.kind) e else headsOf s k := by
  unfold applied
  rw [headsOf_setHeadsOf _ _ _ _ hk]
  split
  · rfl
  · exact headsOf_vals _ _ _

theorem reach_applied {bs : Blocks} {s : DocState} {e : Block} (g : GoodStep bs s e) (k : Kind) (t : Nat) :
    Reach bs (headsOf (applied s e) k) t ↔ (Reach bs (headsOf s k) t ∨ (e.id = t ∧ e.kind = k)) := by
  rw [headsOf_applied s e g.notCol]
  split
  · next h => subst h; rw [reach_updateHeads bs _ e g.nodup g.stored g.parents g.links, eq_comm]; simp
  · next h => simp [Ne.symm h]

theorem applied_vals (s : DocState) (e : Block) : (applied s e).vals = applyDelta s.vals e :=
  vals_setHeadsOf _ _ _

theorem kInvOn_applied {bs : Blocks} {s : DocState} {e : Block} (g : GoodStep bs s e) {k : Kind} (hk : KInvOn bs s k) :
    KInvOn bs (applied s e) k := by
  unfold KInvOn
  rw [headsOf_applied s e g.notCol]
  split
  · next h =>
    subst h
    refine ⟨updateHeads_nodup _ e hk.1, fun h hh => ?_⟩
    rcases (updateHeads_mem _ e hk.1 h).mp hh with rfl | ⟨h1, _⟩
    · exact ⟨e, g.stored, rfl⟩
    · exact hk.2 h h1
  · exact hk

theorem goodStep_of_unmerged {bs : Blocks} (wf : WellFormed bs) {s : DocState} {e : Block} (ok : ElemOK bs e)
    (hk : KInvOn bs s e.kind) (hpar : ∀ p ∈ e.parents, Reach bs (headsOf s e.kind) p)
    (hn : ¬ Reach bs (headsOf s e.kind) e.id) : GoodStep bs s e := by
  refine ⟨ok.stored, ok.notCol, hn, hpar, ?_, ?_, hk.1⟩
  · intro h
    rcases List.mem_append.mp h with h | h
    · obtain ⟨pb, hpb, hlt⟩ := wf e.id e ok.stored _ h
      rw [ok.stored] at hpb; cases hpb
      exact Nat.lt_irrefl _ hlt
    · exact ok.linksKind _ h e ok.stored rfl
  · intro l hl hh
    obtain ⟨lb, hlb, hlk⟩ := hk.2 l hh
    exact ok.linksKind l hl lb hlb hlk


/-- the applied list grows by `e` exactly when `docStep` in state `s` does not skip `e` -/
theorem appliedSeq_snoc_eq {bs : Blocks} (wf : WellFormed bs) (s0 s : DocState) (D : List Block) (e : Block)
    (hD : ∀ x ∈ D, bs.get? x.id = some x) (he : bs.get? e.id = some e)
    (hr : Reach bs (headsOf s e.kind) e.id ↔
      (Reach bs (headsOf s0 e.kind) e.id ∨ ∃ b ∈ D, b.id = e.id ∧ b.kind = e.kind)) :
    appliedSeq bs s0 (D ++ [e]) =
      if isMerged bs (headsOf s e.kind) e.id e.height then appliedSeq bs s0 D else appliedSeq bs s0 D ++ [e] := by
  have hu := unmergedAt_iff wf s0 he
  have hc : (unmergedAt bs s0 e = true ∧ ∀ y ∈ appliedSeq bs s0 D, y.id ≠ e.id) ↔
      ¬ Reach bs (headsOf s e.kind) e.id := by
    rw [hr, not_or, hu]
    refine and_congr_right fun h0 => ⟨fun h ⟨b, hb, hbi, _⟩ => ?_, fun h y hy hyi => ?_⟩
    · obtain rfl := Blocks.get?_inj (hD b hb) he hbi
      obtain ⟨y, hy, hyi⟩ := (exists_mem_appliedSeq bs s0 D b.id).mpr ⟨b, hb, rfl, hu.mpr h0⟩
      exact h y hy hyi
    · have hyD := (mem_appliedSeq hy).1
      obtain rfl := Blocks.get?_inj (hD y hyD) he hyi
      exact h ⟨y, hyD, rfl, rfl⟩
  rw [appliedSeq_snoc, addFirst_eq]
  by_cases hm : Reach bs (headsOf s e.kind) e.id
  · rw [if_neg fun h => hc.mp h hm, isMerged_complete bs wf _ e.id e he hm, if_pos rfl]
  · rw [if_pos (hc.mpr hm), isMerged_eq_false_of_not_reach _ hm, if_neg Bool.false_ne_true]

/-- **The fold.** The merge started in `s0`, has processed `D` and reached `s`; `rest` is to come; `I` is any invariant
    `applied` keeps under `GoodStep`. The hypotheses on the merged sets and on the values say of `s` and `D` what the
    last two conclusions say of `s'` and `D ++ rest`: the merged set of every kind is that of `s0` plus the blocks
    processed; the values are those of `s0` with the deltas of the processed blocks not merged in `s0`, first
    occurrences (`appliedSeq`). Second conclusion: head sets that were well formed still are. -/
theorem fold_docStep (bs : Blocks) (wf : WellFormed bs) (s0 : DocState) (I : DocState → Prop)
    (hI : ∀ s e, GoodStep bs s e → I s → I (applied s e)) :
    ∀ (rest D : List Block) (s : DocState),
      I s →
      (∀ e ∈ D ++ rest, ElemOK bs e) →
      (∀ e ∈ rest, KInvOn bs s e.kind) →
      (∀ k t, Reach bs (headsOf s k) t ↔
        (Reach bs (headsOf s0 k) t ∨ ∃ b ∈ D, b.id = t ∧ b.kind = k)) →
      s.vals = (appliedSeq bs s0 D).foldl applyDelta s0.vals →
      ParentsFirst (fun k t => Reach bs (headsOf s0 k) t) D rest →
      let s' := rest.foldl (docStep bs (fun _ => true)) s
      I s' ∧ (∀ k, KInvOn bs s k → KInvOn bs s' k) ∧
      (∀ k t, Reach bs (headsOf s' k) t ↔
        (Reach bs (headsOf s0 k) t ∨ ∃ b ∈ D ++ rest, b.id = t ∧ b.kind = k)) ∧
      s'.vals = (appliedSeq bs s0 (D ++ rest)).foldl applyDelta s0.vals := by
  intro rest
  induction rest with
  | nil =>
    intro D s hi _ _ hr hv _
    simp only [List.foldl_nil, List.append_nil]
    exact ⟨hi, fun _ h => h, hr, hv⟩
  | cons e tl ih =>
    intro D s hi hok hk hr hv hready
    have heok := hok e (List.mem_append_right _ List.mem_cons_self)
    have hD : ∀ x ∈ D, bs.get? x.id = some x := fun x hx => (hok x (List.mem_append_left _ hx)).stored
    have hpar : ∀ p ∈ e.parents, Reach bs (headsOf s e.kind) p := by
      intro p hp
      refine (hr _ _).mpr ((hready.1 p hp).imp_right fun h => ?_)
      obtain ⟨b, hb, rfl⟩ := List.mem_map.mp h
      exact ⟨b, hb, rfl, heok.parentsKind _ hp b (hD b hb)⟩
    have happ := appliedSeq_snoc_eq wf s0 s D e hD heok.stored (hr _ _)
    simp only [List.foldl_cons]
    rw [List.append_cons] at hok ⊢
    unfold docStep
    by_cases hm : Reach bs (headsOf s e.kind) e.id
    · rw [isMerged_complete bs wf _ e.id e heok.stored hm, if_pos rfl] at happ ⊢
      refine ih (D ++ [e]) s hi hok (fun x hx => hk x (List.mem_cons_of_mem _ hx)) (fun k t => ?_)
        (happ ▸ hv) hready.2
      rw [ListLemmas.exists_mem_snoc, ← or_assoc, ← hr]
      exact (or_iff_left_of_imp (by rintro ⟨rfl, rfl⟩; exact hm)).symm
    · have g := goodStep_of_unmerged wf heok (hk e List.mem_cons_self) hpar hm
      rw [isMerged_eq_false_of_not_reach _ hm, if_neg Bool.false_ne_true] at happ ⊢
      obtain ⟨r1, r2, r3⟩ := ih (D ++ [e]) (applied s e) (hI s e g hi) hok
        (fun x hx => kInvOn_applied g (hk x (List.mem_cons_of_mem _ hx))) (fun k t => by
          rw [reach_applied g, hr, ListLemmas.exists_mem_snoc, or_assoc])
        (by rw [happ, List.foldl_append, ← hv]; exact applied_vals s e) hready.2
      exact ⟨r1, fun k h => r2 k (kInvOn_applied g h), r3⟩

theorem parentsFirst_of_all (R0 : Kind → Nat → Prop) : ∀ (cs D : List Block),
    (∀ e ∈ cs, ∀ p ∈ e.parents, R0 e.kind p ∨ p ∈ D.map (·.id)) → ParentsFirst R0 D cs := by
  intro cs
  induction cs with
  | nil => intro D _; trivial
  | cons e t ih =>
    intro D h
    refine ⟨h e List.mem_cons_self, ih (D ++ [e]) fun x hx p hp => ?_⟩
    refine (h x (List.mem_cons_of_mem _ hx) p hp).imp_right fun h1 => ?_
    rw [List.map_append]
    exact List.mem_append_left _ h1

theorem parentsFirst_append (R0 : Kind → Nat → Prop) : ∀ (xs ys D : List Block),
    ParentsFirst R0 D xs → ParentsFirst R0 (D ++ xs) ys → ParentsFirst R0 D (xs ++ ys) := by
  intro xs
  induction xs with
  | nil => intro ys D _ h; simpa using h
  | cons x t ih =>
    intro ys D h1 h2
    refine ⟨h1.1, ih ys (D ++ [x]) h1.2 (by simpa using h2)⟩


/-- groups `b :: g b`, `b` ascending in height: a parent may also belong to the group of a strictly lower `a` -/
theorem parentsFirst_flatMap (R0 : Kind → Nat → Prop) (g : Block → List Block) :
    ∀ (L D : List Block), L.Pairwise (fun x y => x.height ≤ y.height) →
      (∀ b ∈ L, ∀ e ∈ b :: g b, ∀ p ∈ e.parents, R0 e.kind p ∨ p ∈ D.map (·.id) ∨
        ∃ a ∈ L, a.height < b.height ∧ p ∈ (a :: g a).map (·.id)) →
      ParentsFirst R0 D (L.flatMap fun b => b :: g b) := by
  intro L
  induction L with
  | nil => intro D _ _; trivial
  | cons b tl ih =>
    intro D hs h
    rw [List.pairwise_cons] at hs
    have hlow : ∀ a ∈ b :: tl, ¬ a.height < b.height := by
      intro a ha hlt
      rcases List.mem_cons.mp ha with rfl | ha
      · exact Nat.lt_irrefl _ hlt
      · exact Nat.lt_irrefl _ (Nat.lt_of_lt_of_le hlt (hs.1 a ha))
    rw [List.flatMap_cons]
    refine parentsFirst_append R0 _ _ D (parentsFirst_of_all R0 _ D fun e he p hp => ?_) (ih _ hs.2 fun x hx e he p hp => ?_)
    · -- nothing in `b :: tl` is strictly lower than `b`
      exact (h b List.mem_cons_self e he p hp).imp_right fun h => h.resolve_right fun ⟨a, ha, hlt, _⟩ => hlow a ha hlt
    · rw [List.map_append, List.mem_append]
      refine (h x (List.mem_cons_of_mem _ hx) e he p hp).imp_right fun h => h.elim (fun h => .inl (.inl h)) ?_
      rintro ⟨a, ha, hlt, hin⟩
      rcases List.mem_cons.mp ha with rfl | ha
      · exact .inl (.inr hin)
      · exact .inr ⟨a, ha, hlt, hin⟩

theorem elemOK_comp {bs : Blocks} (swf : StoreWF bs) {e : Block} (hst : bs.get? e.id = some e) (hek : e.kind = .comp) :
    ElemOK bs e := by
  refine ⟨hst, (by rw [hek]; intro h; cases h), fun p hp pb hpb => ?_, fun l hl lb hlb hk' => ?_⟩
  · obtain ⟨pb', h1, h2⟩ := swf.compParents _ _ hst hek p hp
    rw [hpb] at h1; cases h1; rw [hek]; exact h2
  · exact swf.compLinks _ _ hst hek l hl ⟨lb, hlb, by rw [hk', hek]⟩

theorem WalkFacts.parents_lower {bs : Blocks} {heads : List Nat} {c : Nat} {L : List Block}
    (w : WalkFacts bs heads c L) (wf : WellFormed bs) {b : Block} (hb : b ∈ L) {p : Nat} (hp : p ∈ b.parents) :
    Reach bs heads p ∨ ∃ a ∈ L, a.height < b.height ∧ a.id = p := by
  refine (w.parents b hb p hp).imp_right fun h => ?_
  obtain ⟨a, ha, rfl⟩ := List.mem_map.mp h
  obtain ⟨pb, hpb, hlt⟩ := wf _ _ ((w.mem b).mp hb).1 _ hp
  rw [((w.mem a).mp ha).1] at hpb; cases hpb
  exact ⟨a, ha, hlt, rfl⟩

end Defra.Crdt
