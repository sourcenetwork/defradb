/-
The persisted-state / cache model (`Restart.lean`): every step writes the whole memory through, so it leaves a
coherent node, on which a restart is the identity; no operation lowers the index counter of an existing collection.
-/
import DefraModel.Restart
import DefraModel.Proofs.ListLemmas
namespace Defra.Restart

theorem load_persist (m : Cache) : load (persist m) = m := rfl

theorem step_coherent (n : Node) (op : Op) : Coherent (step n op) := by
  cases op <;> rfl

theorem restart_noop (n : Node) (h : Coherent n) : step n .restart = n :=
  congrArg (Node.mk n.store) h.symm

/-- creating an index keeps the collection's name and raises its index counter -/
theorem addIndexF_keeps (col field : String) (c : Col) :
    (addIndexF col field c).name = c.name ∧ c.nextIndex ≤ (addIndexF col field c).nextIndex :=
  ⟨rfl, Nat.le_succ _⟩

/-- likewise for dropping an index: the counter stays -/
theorem dropIndexF_keeps (k : Nat) (c : Col) :
    (dropIndexF k c).name = c.name ∧ c.nextIndex ≤ (dropIndexF k c).nextIndex := by
  unfold dropIndexF
  simp only
  split <;> exact ⟨rfl, Nat.le_refl _⟩

/-- likewise for adding a field -/
theorem addFieldF_keeps (f : String) (c : Col) :
    (addFieldF f c).name = c.name ∧ c.nextIndex ≤ (addFieldF f c).nextIndex := by
  unfold addFieldF
  split <;> exact ⟨rfl, Nat.le_refl _⟩

theorem find_updCol (cols : List Col) (name col : String) (f : Col → Col) (hf : ∀ c, (f c).name = c.name) :
    (updCol cols name f).find? (·.name == col) =
      (cols.find? (·.name == col)).map (fun c => if c.name == name then f c else c) :=
  ListLemmas.find?_replace _ _ f (fun c _ => congrArg (· == col) (hf c)) cols

theorem find_updCol_mono {cols : List Col} {name col : String} {f : Col → Col} {c : Col}
    (hf : ∀ c, (f c).name = c.name ∧ c.nextIndex ≤ (f c).nextIndex) (hc : cols.find? (·.name == col) = some c) :
    ∃ c', (updCol cols name f).find? (·.name == col) = some c' ∧ c.nextIndex ≤ c'.nextIndex := by
  rw [find_updCol _ _ _ f fun c => (hf c).1, hc]
  refine ⟨_, rfl, ?_⟩
  show c.nextIndex ≤ (if c.name == name then f c else c).nextIndex
  by_cases h : (c.name == name) = true
  · rw [if_pos h]; exact (hf c).2
  · rw [if_neg h]; exact Nat.le_refl _

def findCol (n : Node) (col : String) : Option Col := n.mem.cols.find? (·.name == col)

theorem nextIndex_mono (n : Node) (h : Coherent n) (op : Op) (col : String) (c : Col) (hc : findCol n col = some c) :
    ∃ c', findCol (step n op) col = some c' ∧ c.nextIndex ≤ c'.nextIndex := by
  unfold findCol at *
  cases op with
  | restart => rw [restart_noop n h]; exact ⟨c, hc, Nat.le_refl _⟩
  | addCol name fields indexed =>
    simp only [step, applyMem]
    split
    · exact ⟨c, hc, Nat.le_refl _⟩
    · exact ⟨c, by rw [List.find?_append, hc]; rfl, Nat.le_refl _⟩
  | createIndex name field => exact find_updCol_mono (addIndexF_keeps name field) hc
  | dropIndex name k => exact find_updCol_mono (dropIndexF_keeps k) hc
  | addField name field => exact find_updCol_mono (addFieldF_keeps field) hc
  | p2pAdd name | repSet t name => simp only [step, applyMem]; split <;> exact ⟨c, hc, Nat.le_refl _⟩
  | p2pRemove name | repDel t name => exact ⟨c, hc, Nat.le_refl _⟩

theorem nextIndex_mono_run (n : Node) (h : Coherent n) (ops : List Op) (col : String) (c : Col)
    (hc : findCol n col = some c) :
    ∃ c', findCol (ops.foldl step n) col = some c' ∧ c.nextIndex ≤ c'.nextIndex := by
  induction ops generalizing n c with
  | nil => exact ⟨c, hc, Nat.le_refl _⟩
  | cons op t ih =>
    obtain ⟨c1, hc1, hle1⟩ := nextIndex_mono n h op col c hc
    obtain ⟨c2, hc2, hle2⟩ := ih (step n op) (step_coherent n op) c1 hc1
    exact ⟨c2, hc2, Nat.le_trans hle1 hle2⟩

theorem createIndex_issues (n : Node) (col field : String) (c : Col) (hc : findCol n col = some c) :
    ∃ c', findCol (step n (.createIndex col field)) col = some c' ∧ c'.nextIndex = c.nextIndex + 1 ∧
      (c'.indexes.getLast?).map (·.id) = some c.nextIndex := by
  unfold findCol at *
  simp only [step, applyMem]
  rw [find_updCol _ _ _ (addIndexF col field) fun c => (addIndexF_keeps col field c).1, hc]
  have hn : (c.name == col) = true := List.find?_some (p := fun x : Col => x.name == col) hc
  simp only [Option.map_some, hn, if_true]
  exact ⟨_, rfl, rfl, by simp [addIndexF]⟩

end Defra.Restart
