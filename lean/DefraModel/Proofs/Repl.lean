/-
The replication model (`Repl.lean`): what a version table reads after an update and after a retry round; every step
keeps `Inv` (defined in the model file) and `Inv2` (defined here) and takes nothing back from B.
-/
import DefraModel.Repl
import DefraModel.Proofs.ListLemmas
namespace Defra.Repl

theorem ver_setVer (m : List (Nat × Nat)) (d v e : Nat) : ver (setVer m d v) e = if e = d then v else ver m e := by
  unfold ver setVer
  split
  · next h => simp [h]
  · next h =>
    rw [List.find?_cons_of_neg (by simpa using Ne.symm h), ListLemmas.find?_filter_ne m (Ne.symm h)]

theorem ver_foldl_push (a : List (Nat × Nat)) (owed : List Nat) (b : List (Nat × Nat)) (e : Nat) :
    ver (owed.foldl (fun b d => setVer b d (ver a d)) b) e = if e ∈ owed then ver a e else ver b e := by
  induction owed generalizing b with
  | nil => rfl
  | cons d t ih =>
    rw [List.foldl_cons, ih, ver_setVer]
    by_cases het : e ∈ t
    · simp [het]
    · by_cases hed : e = d <;> simp [het, hed]

theorem Inv.synced {s : St} (h : Inv s) (hrec : s.record = false) : s.owed = [] ∧ Synced s := by
  obtain ⟨_, _, howed, hr⟩ := h
  have hno : s.owed = [] := Decidable.byContradiction fun hne => by rw [hr hne] at hrec; cases hrec
  exact ⟨hno, fun e => Decidable.byContradiction fun hne => by have := howed e hne; rw [hno] at this; cases this⟩

theorem step_inv (s : St) (ev : Ev) (h : Inv s) : Inv (step s ev) := by
  obtain ⟨hr, hnr, howed, hrec⟩ := h
  cases ev with
  | down | up => exact ⟨hr, hnr, howed, hrec⟩
  | write d =>
    simp only [step, hr, if_true, push]
    cases s.bUp
    · -- B down: `d` joins `owed`
      refine ⟨rfl, hnr, fun e he => ?_, fun _ => rfl⟩
      have he : ver s.b e ≠ ver (setVer s.a d _) e := he
      have : e ∈ s.owed ∨ e = d := by
        by_cases hed : e = d
        · exact Or.inr hed
        · rw [ver_setVer, if_neg hed] at he; exact Or.inl (howed e he)
      show e ∈ (if s.owed.contains d then s.owed else s.owed ++ [d])
      split
      · next hc => exact this.elim id fun h' => h' ▸ List.contains_iff_mem.mp hc
      · exact List.mem_append.mpr (this.imp id List.mem_singleton.mpr)
    · -- B up: `d` is synced, the others are as before
      refine ⟨rfl, hnr, fun e he => howed e fun h' => he ?_, hrec⟩
      show ver (setVer s.b d _) e = ver (setVer s.a d _) e
      rw [ver_setVer, ver_setVer, h', ver_setVer, if_pos rfl]
  | retry =>
    simp only [step, hr, hnr, Bool.true_and, Bool.not_false, Bool.and_true]
    cases s.record
    · exact ⟨hr, hnr, howed, hrec⟩
    cases s.bUp
    · exact ⟨hr, hnr, howed, hrec⟩
    · refine ⟨rfl, rfl, fun e he => ?_, fun h => absurd rfl h⟩
      have he : ver (s.owed.foldl (fun b d => setVer b d (ver s.a d)) s.b) e ≠ ver s.a e := he
      rw [ver_foldl_push] at he
      split at he
      · exact absurd rfl he
      · next heo => exact absurd (howed e he) heo

/-- B is never ahead of A; the status is active exactly while there is no retry record -/
def Inv2 (s : St) : Prop := (∀ d, ver s.b d ≤ ver s.a d) ∧ s.active = !s.record

theorem foldl_push_le {a b : List (Nat × Nat)} (hle : ∀ d, ver b d ≤ ver a d) (owed : List Nat) (e : Nat) :
    ver b e ≤ ver (owed.foldl (fun b d => setVer b d (ver a d)) b) e ∧
      ver (owed.foldl (fun b d => setVer b d (ver a d)) b) e ≤ ver a e := by
  rw [ver_foldl_push]
  split
  · exact ⟨hle e, Nat.le_refl _⟩
  · exact ⟨Nat.le_refl _, hle e⟩

theorem push_inv2 (s : St) (d : Nat) (h : Inv2 s) : Inv2 (push s d) ∧ ∀ e, ver s.b e ≤ ver (push s d).b e := by
  obtain ⟨hle, hst⟩ := h
  unfold push
  cases s.bUp
  · exact ⟨⟨hle, rfl⟩, fun e => Nat.le_refl _⟩
  · -- a push is the retry fold over `[d]`
    exact ⟨⟨fun e => (foldl_push_le hle [d] e).2, hst⟩, fun e => (foldl_push_le hle [d] e).1⟩

/-- a step keeps `Inv2`, and what B holds of any document does not fall -/
theorem step_inv2 (s : St) (ev : Ev) (h : Inv2 s) : Inv2 (step s ev) ∧ ∀ e, ver s.b e ≤ ver (step s ev).b e := by
  have keep : Inv2 s ∧ ∀ e, ver s.b e ≤ ver s.b e := ⟨h, fun e => Nat.le_refl _⟩
  obtain ⟨hle, hst⟩ := h
  cases ev with
  | down | up => exact keep
  | write d =>
    have h' : Inv2 { s with a := setVer s.a d (ver s.a d + 1) } := by
      refine ⟨fun e => ?_, hst⟩
      show ver s.b e ≤ ver (setVer s.a d (ver s.a d + 1)) e
      rw [ver_setVer]
      split
      · next h => rw [h]; exact Nat.le_succ_of_le (hle d)
      · exact hle e
    simp only [step]
    cases s.hasRep
    · exact ⟨h', fun e => Nat.le_refl _⟩
    · exact push_inv2 _ d h'
  | retry =>
    simp only [step]
    cases (s.hasRep && s.record && !s.retrying)
    · exact keep
    cases s.bUp
    · exact keep
    · exact ⟨⟨fun e => (foldl_push_le hle s.owed e).2, rfl⟩, fun e => (foldl_push_le hle s.owed e).1⟩

theorem run_inv2 (evs : List Ev) : Inv2 (run evs) :=
  List.foldlRecOn evs step ⟨fun _ => Nat.le_refl _, rfl⟩ fun s h ev _ => (step_inv2 s ev h).1

theorem foldl_step_mono (more : List Ev) : ∀ (s : St), Inv2 s → ∀ d, ver s.b d ≤ ver (more.foldl step s).b d := by
  induction more with
  | nil => intro s _ d; exact Nat.le_refl _
  | cons ev t ih =>
    intro s h0 d
    obtain ⟨h1, hm⟩ := step_inv2 s ev h0
    exact Nat.le_trans (hm d) (ih (step s ev) h1 d)

end Defra.Repl
