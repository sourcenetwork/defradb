import DefraModel.Index.Multi
import DefraModel.Proofs.ListLemmas

/-! Keys, each kept the first time it is met (`dedupSeen`: a definition of the array-index model, hence the import), are
    looked up in a collection without duplicates: the device of `memorizingIndexIterator` and of `encounteredDocIDs`. -/
namespace Defra.IndexMulti

theorem mem_dedupSeen {α : Type} [DecidableEq α] (l : List α) :
    ∀ (seen : List α) (x : α), x ∈ dedupSeen seen l ↔ (x ∈ l ∧ x ∉ seen) := by
  induction l with
  | nil => intro seen x; simp [dedupSeen]
  | cons y ys ih =>
    intro seen x
    unfold dedupSeen
    split
    · rename_i hy
      rw [ih, List.mem_cons]
      exact ⟨fun ⟨h1, h2⟩ => ⟨.inr h1, h2⟩,
        fun ⟨h1, h2⟩ => ⟨h1.resolve_left fun e => h2 (e ▸ hy), h2⟩⟩
    · rename_i hy
      by_cases hxy : x = y
      · simp [hxy, hy]
      · simp [ih, hxy]

theorem nodup_dedupSeen {α : Type} [DecidableEq α] (l : List α) : ∀ (seen : List α), (dedupSeen seen l).Nodup := by
  induction l with
  | nil => intro seen; simp [dedupSeen]
  | cons y ys ih =>
    intro seen
    unfold dedupSeen
    split
    · exact ih seen
    · exact List.nodup_cons.mpr ⟨fun hm => ((mem_dedupSeen ys _ y).mp hm).2 List.mem_cons_self, ih _⟩

end Defra.IndexMulti

namespace Defra.Lookup

theorem nodup_map_append {α κ : Type} [BEq κ] [LawfulBEq κ] {key : α → κ} {l : List α} {a : α}
    (hn : (l.map key).Nodup) (hfresh : ¬ l.any (fun x => key x == key a) = true) :
    ((l ++ [a]).map key).Nodup := by
  rw [List.map_append, List.nodup_append]
  refine ⟨hn, by simp, ?_⟩
  simp only [List.mem_map, List.map_cons, List.map_nil, List.mem_singleton]
  rintro _ ⟨x, hx, rfl⟩ _ rfl e
  exact hfresh (List.any_eq_true.mpr ⟨x, hx, by simp [e]⟩)

theorem lookup_keys_sublist {α κ : Type} (g : κ → Option α) (key : α → κ)
    (hg : ∀ k a, g k = some a → key a = k) : ∀ ks : List κ, ((ks.filterMap g).map key).Sublist ks
  | [] => .slnil
  | k :: ks => by
    rw [List.filterMap_cons]
    cases h : g k with
    | none => exact .cons _ (lookup_keys_sublist g key hg ks)
    | some a => rw [List.map_cons, hg k a h]; exact .cons_cons _ (lookup_keys_sublist g key hg ks)

theorem refilter_perm {α : Type} {docs cands : List α} (m : α → Bool)
    (hd : docs.Nodup) (hc : cands.Nodup) (hsub : ∀ d ∈ cands, d ∈ docs)
    (hcomplete : ∀ d ∈ docs, m d = true → d ∈ cands) : (cands.filter m).Perm (docs.filter m) := by
  refine (List.perm_ext_iff_of_nodup (hc.filter _) (hd.filter _)).mpr fun d => ?_
  simp only [List.mem_filter]
  exact ⟨fun ⟨h1, h2⟩ => ⟨hsub d h1, h2⟩, fun ⟨h1, h2⟩ => ⟨hcomplete d h1 h2, h2⟩⟩

end Defra.Lookup
