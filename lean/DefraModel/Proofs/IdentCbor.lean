/- Canonical CBOR: `encKey` is injective, so the sorted form of fields with distinct names is unique. -/
import DefraModel.Ident.Cbor
import DefraModel.Proofs.BytesLemmas
import DefraModel.Proofs.ListLemmas
namespace Defra.Ident
open Defra.Bytes

theorem keyLe_iff (a b : Bytes × FV) : keyLe a b = true ↔
    (encKey a.1).length < (encKey b.1).length ∨
      ((encKey a.1).length = (encKey b.1).length ∧ Bytes.lt (encKey b.1) (encKey a.1) = false) := by
  simp only [keyLe, Bool.or_eq_true, decide_eq_true_eq, Bool.and_eq_true, beq_iff_eq, Bool.not_eq_true']

theorem keyLe_trans (a b c : Bytes × FV) (h1 : keyLe a b = true) (h2 : keyLe b c = true) : keyLe a c = true := by
  rw [keyLe_iff] at h1 h2 ⊢
  rcases h1 with h1 | ⟨e1, l1⟩ <;> rcases h2 with h2 | ⟨e2, l2⟩
  · exact Or.inl (by omega)
  · exact Or.inl (by omega)
  · exact Or.inl (by omega)
  · exact Or.inr ⟨by omega, le_trans l1 l2⟩

theorem keyLe_total (a b : Bytes × FV) : (keyLe a b || keyLe b a) = true := by
  rw [Bool.or_eq_true, keyLe_iff, keyLe_iff]
  rcases Nat.lt_trichotomy (encKey a.1).length (encKey b.1).length with h | h | h
  · exact Or.inl (Or.inl h)
  · cases hba : Bytes.lt (encKey b.1) (encKey a.1)
    · exact Or.inl (Or.inr ⟨h, rfl⟩)
    · exact Or.inr (Or.inr ⟨h.symm, lt_asymm _ _ hba⟩)
  · exact Or.inr (Or.inl h)

theorem keyLe_antisymm_key (a b : Bytes × FV) (h1 : keyLe a b = true) (h2 : keyLe b a = true) :
    encKey a.1 = encKey b.1 := by
  rw [keyLe_iff] at h1 h2
  rcases h1 with h1 | ⟨e1, l1⟩ <;> rcases h2 with h2 | ⟨e2, l2⟩
  · omega
  · omega
  · omega
  · exact le_antisymm l1 l2

theorem beN_length : ∀ (w x : Nat), (beN w x).length = w
  | 0, _ => rfl
  | w + 1, x => congrArg (· + 1) (beN_length w x)

theorem ite_lt_mono (T c : Nat) {n m : Nat} (h : n ≤ m) : (if n < T then 0 else c) ≤ (if m < T then 0 else c) := by
  by_cases hm : m < T
  · rw [if_pos hm, if_pos (Nat.lt_of_le_of_lt h hm)]; exact Nat.le_refl _
  · rw [if_neg hm]
    by_cases hn : n < T
    · rw [if_pos hn]; exact Nat.zero_le _
    · rw [if_neg hn]; exact Nat.le_refl _

theorem head_length (j n : Nat) : (head j n).length =
    1 + (if n < 24 then 0 else 1) + (if n < 256 then 0 else 1) + (if n < 65536 then 0 else 2)
      + (if n < 4294967296 then 0 else 4) := by
  unfold head
  by_cases h1 : n < 24
  · simp only [h1, show n < 256 by omega, show n < 65536 by omega, show n < 4294967296 by omega, if_true,
      List.length_cons, List.length_nil]
  by_cases h2 : n < 256
  · simp only [h1, h2, show n < 65536 by omega, show n < 4294967296 by omega, if_true, if_false,
      List.length_cons, List.length_nil]
  by_cases h3 : n < 65536
  · simp only [h1, h2, h3, show n < 4294967296 by omega, if_true, if_false, List.length_cons, beN_length]
  by_cases h4 : n < 4294967296
  · simp only [h1, h2, h3, h4, if_true, if_false, List.length_cons, beN_length]
  · simp only [h1, h2, h3, h4, if_false, List.length_cons, beN_length]

theorem head_length_mono (j : Nat) {n m : Nat} (h : n ≤ m) : (head j n).length ≤ (head j m).length := by
  rw [head_length, head_length]
  have := ite_lt_mono 24 1 h; have := ite_lt_mono 256 1 h; have := ite_lt_mono 65536 2 h
  have := ite_lt_mono 4294967296 4 h
  omega

theorem encKey_inj (a b : Bytes) (h : encKey a = encKey b) : a = b := by
  have hl := congrArg List.length h
  simp only [encKey, List.length_append] at hl
  -- the head does not get shorter with a longer text, so equal total length forces equal text length
  have hlen : a.length = b.length := by
    rcases Nat.le_total a.length b.length with h' | h' <;> have := head_length_mono 3 h' <;> omega
  unfold encKey at h
  rw [hlen] at h
  exact List.append_cancel_left h

theorem mergeSort_keyLe_perm {l₁ l₂ : List (Bytes × FV)} (p : l₁.Perm l₂) (hk : (l₁.map (·.1)).Nodup) :
    l₁.mergeSort keyLe = l₂.mergeSort keyLe := by
  refine List.Perm.eq_of_pairwise ?_ (List.pairwise_mergeSort keyLe_trans keyLe_total l₁)
    (List.pairwise_mergeSort keyLe_trans keyLe_total l₂)
    ((List.mergeSort_perm _ _).trans (p.trans (List.mergeSort_perm _ _).symm))
  intro a b ha hb hab hba
  exact ListLemmas.inj_of_nodup_map (·.1) hk ((List.mergeSort_perm _ _).subset ha)
    (p.symm.subset ((List.mergeSort_perm _ _).subset hb)) (encKey_inj _ _ (keyLe_antisymm_key a b hab hba))

/-- **field order is immaterial**: permuted field lists (with distinct names) serialise to the same bytes -/
theorem docBytes_perm (f₁ f₂ : List (Bytes × FV)) (p : f₁.Perm f₂)
    (hk : (f₁.map (·.1)).Nodup) : docBytes f₁ = docBytes f₂ := by
  simp only [docBytes, mergeSort_keyLe_perm (p.filter _) ((List.filter_sublist.map _).nodup hk)]

theorem docBytes_nil_omitted (k : Bytes) (fs : List (Bytes × FV)) : docBytes ((k, .null) :: fs) = docBytes fs := by
  simp [docBytes]

end Defra.Ident
