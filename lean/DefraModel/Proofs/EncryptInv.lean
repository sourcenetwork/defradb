import DefraModel.Encrypt
import DefraModel.Proofs.ListLemmas

/-! One invariant per DAG of the document (`DagInv`) serves a field encrypted at creation and the composite alike;
    `DocLevel` adds what lets a field without a key of its own fall back on the composite's. Histories are folds
    (`List.foldlRecOn`). -/
namespace Defra.Encrypt

theorem firstEnc_eq (hs : List Blk) : firstEnc hs = hs.findSome? (·.enc) := by
  induction hs with
  | nil => rfl
  | cons h t ih => unfold firstEnc; rw [List.findSome?_cons, ih]; cases h.enc <;> rfl

theorem firstDocEnc_eq (hs : List Blk) :
    firstDocEnc hs = hs.findSome? (fun h => h.enc.filter (·.field.isNone)) := by
  induction hs with
  | nil => rfl
  | cons h t ih =>
    unfold firstDocEnc; rw [List.findSome?_cons, ih]
    cases h.enc with
    | none => rfl
    | some k => simp only [Option.filter_some]; split <;> rfl

theorem headsOf_withHeads (s : St) (g d : Option FName) (hs : List Blk) :
    (s.withHeads g hs).headsOf d = if d = g then hs else s.headsOf d := by
  cases g with
  | none => cases d <;> rfl
  | some g =>
    cases d with
    | none => rfl
    | some f =>
      show (((setHeads s.fheads g hs).find? (·.1 == f)).map (·.2)).getD [] = _
      by_cases h : f = g
      · subst h
        rw [if_pos rfl, setHeads, List.find?_cons, show ((f, hs).1 == f) = true from decide_eq_true rfl]
        rfl
      · rw [if_neg fun e => h (Option.some.inj e), setHeads, List.find?_cons,
          show ((g, hs).1 == f) = false from decide_eq_false (Ne.symm h)]
        exact congrArg (fun o => (o.map (·.2)).getD []) (ListLemmas.find?_filter_ne s.fheads (Ne.symm h))

theorem addDelta_blocks (s : St) (ctx : Option Cfg) (d : Option FName) :
    (addDelta s ctx d).blocks = s.blocks ++ [⟨d, s.nextOp, (determine s ctx d).1, false⟩] := by
  unfold addDelta
  rcases determine s ctx d with ⟨_ | k, _ | _⟩ <;> cases d <;> rfl

theorem addDelta_headsOf (s : St) (ctx : Option Cfg) (g d : Option FName) :
    (addDelta s ctx g).headsOf d =
      if d = g then [⟨g, s.nextOp, (determine s ctx g).1, false⟩] else s.headsOf d := by
  unfold addDelta
  rcases determine s ctx g with ⟨_ | k, _ | _⟩ <;> exact headsOf_withHeads _ g d _

theorem mergeTwinField_headsOf (s : St) (g : FName) (d : Option FName) :
    (mergeTwinField s g).headsOf d =
      if d = some g then s.headsOf d ++ [⟨some g, 0, none, true⟩] else s.headsOf d := by
  refine (headsOf_withHeads { s with blocks := _ } (some g) d _).trans ?_
  by_cases e : d = some g
  · rw [if_pos e, if_pos e, e]
  · rw [if_neg e, if_neg e]; rfl

theorem determine_of_should {ctx : Option Cfg} {d : Option FName} (h : should ctx d = true) (s : St) :
    (determine s ctx d).1 = some ⟨s.nextKey, if individual ctx d then d else none⟩ := by
  unfold determine; rw [if_pos h]

theorem determine_of_not_should {ctx : Option Cfg} {d : Option FName} (h : should ctx d = false) (s : St) :
    (determine s ctx d).1 = (firstEnc (s.headsOf d)).or (d.bind fun _ => firstDocEnc s.cheads) := by
  unfold determine; rw [if_neg (Bool.eq_false_iff.mp h)]
  cases firstEnc (s.headsOf d) with
  | some k => rfl
  | none => cases d with
    | none => rfl
    | some f => cases firstDocEnc s.cheads <;> rfl

theorem determine_isSome_of_should {ctx : Option Cfg} {d : Option FName} (h : should ctx d = true) (s : St) :
    (determine s ctx d).1.isSome := by
  rw [determine_of_should h]; rfl

theorem determine_isSome_of_head {s : St} {d : Option FName} (h : ∃ h ∈ s.headsOf d, h.enc.isSome)
    (ctx : Option Cfg) : (determine s ctx d).1.isSome := by
  cases hs : should ctx d with
  | true => exact determine_isSome_of_should hs s
  | false => rw [determine_of_not_should hs, Option.isSome_or, firstEnc_eq, List.findSome?_isSome_iff.mpr h]; rfl

/-- Every block the node itself wrote whose field satisfies `Q` links a key. `Q` is a parameter because the same fact is
    kept for one DAG (`· = d`, in `DagInv`) and for all field DAGs at once (`·.isSome`, in `DocLevel`). `remote = false`:
    the blocks of a twin that `mergeTwin` brings in were written elsewhere, in clear. -/
def LocalEnc (Q : Option FName → Prop) (s : St) : Prop := ∀ b ∈ s.blocks, b.remote = false → Q b.field → b.enc.isSome

theorem LocalEnc.append {Q : Option FName → Prop} {s s' : St} {b : Blk} (hi : LocalEnc Q s)
    (hs : s'.blocks = s.blocks ++ [b]) (hb : b.remote = false → Q b.field → b.enc.isSome) : LocalEnc Q s' := by
  unfold LocalEnc
  rw [hs]
  exact List.forall_mem_append.mpr ⟨hi, List.forall_mem_singleton.mpr hb⟩

/- `save` ends with `{ s' with nextOp := s'.nextOp + 1 }`. The `bump` lemmas are stated for a variable state: `exact h`
   with `h : P s'` against `P (save s ctx fs)` makes the unifier reduce the whole fold under the counter before it fails. -/
theorem LocalEnc.bump {Q : Option FName → Prop} {s : St} (h : LocalEnc Q s) :
    LocalEnc Q { s with nextOp := s.nextOp + 1 } := h

/-- A head of DAG `d` (`none`: the composite) links a key, so what `AddDelta` writes next for it inherits one
    (`determine_isSome_of_head`); every block the node wrote for it links one. -/
structure DagInv (d : Option FName) (s : St) : Prop where
  head : ∃ h ∈ s.headsOf d, h.enc.isSome
  blocks : LocalEnc (· = d) s

theorem addDelta_dagInv {d : Option FName} {s : St} (hi : DagInv d s) (ctx : Option Cfg) (g : Option FName) :
    DagInv d (addDelta s ctx g) := by
  have hk := determine_isSome_of_head hi.head ctx
  refine ⟨?_, hi.blocks.append (addDelta_blocks s ctx g) fun _ e => by subst e; exact hk⟩
  rw [addDelta_headsOf]
  by_cases e : d = g
  · subst e; rw [if_pos rfl]; exact ⟨_, List.mem_singleton.mpr rfl, hk⟩
  · rw [if_neg e]; exact hi.head

theorem DagInv.bump {d : Option FName} {s : St} (h : DagInv d s) : DagInv d { s with nextOp := s.nextOp + 1 } :=
  ⟨h.head, h.blocks.bump⟩

theorem save_dagInv {d : Option FName} {s : St} (hi : DagInv d s) (ctx : Option Cfg) (fs : List FName) :
    DagInv d (save s ctx fs) :=
  (addDelta_dagInv (List.foldlRecOn fs _ hi fun _ h f _ => addDelta_dagInv h ctx (some f)) ctx none).bump

theorem mergeTwinField_cheads (s : St) (f : FName) : (mergeTwinField s f).cheads = s.cheads := rfl

theorem mergeTwinField_dagInv {d : Option FName} {s : St} (hi : DagInv d s) (g : FName) :
    DagInv d (mergeTwinField s g) := by
  refine ⟨?_, hi.blocks.append rfl fun hr => nomatch hr⟩
  obtain ⟨h, hm, he⟩ := hi.head
  rw [mergeTwinField_headsOf]
  by_cases e : d = some g
  · rw [if_pos e]; exact ⟨h, List.mem_append_left _ hm, he⟩
  · rw [if_neg e]; exact ⟨h, hm, he⟩

theorem mergeTwin_dagInv {d : Option FName} {s : St} (hi : DagInv d s) (fs : List FName) :
    DagInv d (mergeTwin s fs) := by
  have h := List.foldlRecOn fs mergeTwinField hi fun _ h f _ => mergeTwinField_dagInv h f
  refine ⟨?_, h.blocks.append rfl fun hr => nomatch hr⟩
  obtain ⟨b, hm, he⟩ := h.head
  cases d with
  | none => exact ⟨b, List.mem_append_left _ hm, he⟩
  | some f => exact ⟨b, hm, he⟩

theorem step_dagInv {d : Option FName} {s : St} (hi : DagInv d s) : ∀ op, DagInv d (step s op)
  | .update fs => save_dagInv hi none fs
  | .delete => save_dagInv hi none []
  | .twin fs => mergeTwin_dagInv hi fs

theorem addDelta_localEnc_of_should {Q : Option FName → Prop} {ctx : Option Cfg} (hs : ∀ d, Q d → should ctx d = true)
    {s : St} (hp : LocalEnc Q s) (g : Option FName) : LocalEnc Q (addDelta s ctx g) :=
  hp.append (addDelta_blocks s ctx g) fun _ hq => determine_isSome_of_should (hs g hq) s

theorem create_localEnc {Q : Option FName → Prop} {cfg : Option Cfg} (hs : ∀ d, Q d → should cfg d = true)
    (fs : List FName) : LocalEnc Q (create cfg fs) :=
  (addDelta_localEnc_of_should hs (List.foldlRecOn fs _ (show LocalEnc Q {} from fun _ hb => nomatch hb)
    fun _ h f _ => addDelta_localEnc_of_should hs h (some f)) none).bump

theorem create_dagInv {cfg : Option Cfg} {d : Option FName} (hs : should cfg d = true) {fs : List FName}
    (hd : ∀ f, d = some f → f ∈ fs) : DagInv d (create cfg fs) := by
  have hq : ∀ g, g = d → should cfg g = true := fun _ e => e ▸ hs
  -- until `d` is written only `pre` holds; its write makes an encrypted block the head (`est`)
  have est : ∀ {s : St}, LocalEnc (· = d) s → DagInv d (addDelta s cfg d) := by
    intro s hp
    refine ⟨?_, addDelta_localEnc_of_should hq hp d⟩
    rw [addDelta_headsOf, if_pos rfl]
    exact ⟨_, List.mem_singleton.mpr rfl, determine_isSome_of_should hs s⟩
  have pre : ∀ (l : List FName), LocalEnc (· = d) (l.foldl (fun s f => addDelta s cfg (some f)) {}) :=
    fun l => List.foldlRecOn l _ (fun _ hb => nomatch hb) fun _ h f _ => addDelta_localEnc_of_should hq h (some f)
  have h : DagInv d (addDelta (fs.foldl (fun s f => addDelta s cfg (some f)) {}) cfg none) := by
    cases d with
    | none => exact est (pre fs)
    | some f =>
      obtain ⟨l₁, l₂, rfl⟩ := List.append_of_mem (hd f rfl)
      rw [List.foldl_append, List.foldl_cons]
      exact addDelta_dagInv (List.foldlRecOn l₂ _ (est (pre l₁)) fun _ h g _ => addDelta_dagInv h cfg (some g)) cfg none
  exact h.bump

theorem run_dagInv {cfg : Option Cfg} {d : Option FName} (hs : should cfg d = true) {fs : List FName}
    (hd : ∀ f, d = some f → f ∈ fs) (ops : List Op) : DagInv d (run cfg fs ops) :=
  List.foldlRecOn ops step (create_dagInv hs hd) fun _ h op _ => step_dagInv h op

/-- `DagInv (some f) s` with `LocalEnc` written out -/
structure FieldInv (f : FName) (s : St) : Prop where
  head : ∃ h ∈ s.headsOf (some f), h.enc.isSome
  blocks : ∀ b ∈ s.blocks, b.remote = false → b.field = some f → b.enc.isSome

theorem run_fieldInv (c : Cfg) (f : FName) (hf : c.fields.contains f = true) (fs : List FName) (hm : f ∈ fs)
    (ops : List Op) : FieldInv f (run (some c) fs ops) :=
  have h := run_dagInv (cfg := some c) (d := some f) (by simp only [should, hf, Bool.or_true])
    (fun _ e => Option.some.inj e ▸ hm) ops
  ⟨h.head, h.blocks⟩

structure DocInv (s : St) : Prop where
  chead : ∃ h ∈ s.cheads, ∃ k, h.enc = some k ∧ k.field = none
  blocks : ∀ b ∈ s.blocks, b.remote = false → b.field.isSome → b.enc.isSome

def CompKeysDoc (s : St) : Prop := ∀ h ∈ s.cheads, ∀ k, h.enc = some k → k.field = none

theorem CompKeysDoc.bump {s : St} (h : CompKeysDoc s) : CompKeysDoc { s with nextOp := s.nextOp + 1 } := h

/-- a composite never gets a field's key -/
theorem addDelta_compKeysDoc {s : St} (hc : CompKeysDoc s) (ctx : Option Cfg) (g : Option FName) :
    CompKeysDoc (addDelta s ctx g) := by
  intro h hm k hk
  have e : (addDelta s ctx g).cheads = _ := addDelta_headsOf s ctx g none
  rw [e] at hm
  by_cases eg : none = g
  · subst eg
    rw [if_pos rfl] at hm
    rw [List.mem_singleton.mp hm] at hk
    cases hs : should ctx none with
    | true => rw [determine_of_should hs] at hk; cases hk; exact ite_self none
    | false =>
      rw [determine_of_not_should hs, Option.bind_none, Option.or_none, firstEnc_eq] at hk
      obtain ⟨b, hb, hbk⟩ := List.exists_of_findSome?_eq_some hk
      exact hc b hb k hbk
  · rw [if_neg eg] at hm; exact hc h hm k hk

/-- Document-level encryption: the composite keeps a keyed head (`comp`) and composite heads carry document-level keys
    (`keys`), so a field block that finds no key on the heads of its own DAG falls back on the composite's
    (`determine_field_isSome`): every field block the node writes links a key (`fields`). -/
structure DocLevel (s : St) : Prop where
  comp : DagInv none s
  keys : CompKeysDoc s
  fields : LocalEnc (·.isSome) s

theorem DocLevel.docInv {s : St} (h : DocLevel s) : DocInv s := by
  obtain ⟨b, hm, he⟩ := h.comp.head
  obtain ⟨k, hk⟩ := Option.isSome_iff_exists.mp he
  exact ⟨⟨b, hm, k, hk, h.keys b hm k hk⟩, h.fields⟩

theorem determine_field_isSome {s : St} (hi : DocInv s) (ctx : Option Cfg) (f : FName) :
    (determine s ctx (some f)).1.isSome := by
  obtain ⟨h, hm, k, he, hk⟩ := hi.chead
  have := (List.findSome?_isSome_iff (f := fun h : Blk => h.enc.filter (·.field.isNone))).mpr
    ⟨h, hm, by rw [he, Option.filter_some, hk]; rfl⟩
  cases hs : should ctx (some f) with
  | true => exact determine_isSome_of_should hs s
  | false => rw [determine_of_not_should hs, Option.isSome_or, Option.bind_some, firstDocEnc_eq, this, Bool.or_true]

theorem addDelta_docLevel {s : St} (hi : DocLevel s) (ctx : Option Cfg) (g : Option FName) :
    DocLevel (addDelta s ctx g) :=
  ⟨addDelta_dagInv hi.comp ctx g, addDelta_compKeysDoc hi.keys ctx g,
   hi.fields.append (addDelta_blocks s ctx g) fun _ hf => by
    cases g with
    | none => cases hf
    | some f => exact determine_field_isSome hi.docInv ctx f⟩

theorem DocLevel.bump {s : St} (h : DocLevel s) : DocLevel { s with nextOp := s.nextOp + 1 } :=
  ⟨h.comp.bump, h.keys.bump, h.fields.bump⟩

theorem save_docLevel {s : St} (hi : DocLevel s) (ctx : Option Cfg) (fs : List FName) : DocLevel (save s ctx fs) :=
  (addDelta_docLevel (List.foldlRecOn fs _ hi fun _ h f _ => addDelta_docLevel h ctx (some f)) ctx none).bump

theorem mergeTwin_docLevel {s : St} (hi : DocLevel s) (fs : List FName) : DocLevel (mergeTwin s fs) := by
  have h : CompKeysDoc (fs.foldl mergeTwinField s) ∧ LocalEnc (·.isSome) (fs.foldl mergeTwinField s) :=
    List.foldlRecOn (motive := fun s => CompKeysDoc s ∧ LocalEnc (·.isSome) s) fs mergeTwinField ⟨hi.keys, hi.fields⟩
      fun _ h f _ => ⟨h.1, h.2.append rfl fun hr => nomatch hr⟩
  refine ⟨mergeTwin_dagInv hi.comp fs, ?_, h.2.append rfl fun hr => nomatch hr⟩
  intro b hm k hk
  rcases List.mem_append.mp hm with hm | hm
  · exact h.1 b hm k hk
  · rw [List.mem_singleton.mp hm] at hk; cases hk

theorem step_docLevel {s : St} (hi : DocLevel s) : ∀ op, DocLevel (step s op)
  | .update fs => save_docLevel hi none fs
  | .delete => save_docLevel hi none []
  | .twin fs => mergeTwin_docLevel hi fs

theorem run_docLevel (c : Cfg) (hd : c.isDoc = true) (fs : List FName) (ops : List Op) :
    DocLevel (run (some c) fs ops) := by
  have hs : ∀ d, should (some c) d = true := fun d => by simp only [should, hd, Bool.true_or]
  have h0 : DocLevel (create (some c) fs) :=
    ⟨create_dagInv (hs none) nofun,
     (addDelta_compKeysDoc (List.foldlRecOn fs _ (show CompKeysDoc {} from fun _ hm => nomatch hm)
       fun _ h f _ => addDelta_compKeysDoc h (some c) (some f)) (some c) none).bump,
     create_localEnc (fun d _ => hs d) fs⟩
  exact List.foldlRecOn ops step h0 fun _ h op _ => step_docLevel h op

theorem plain_eq_none {b : Blk} (h : b.enc.isSome) : b.plain = none := by
  obtain ⟨k, hk⟩ := Option.isSome_iff_exists.mp h
  unfold Blk.plain
  rw [hk]
  cases b.field <;> rfl

theorem field_isSome_of_plain {b : Blk} {p : Nat × FName} (h : b.plain = some p) : b.field.isSome := by
  cases hf : b.field with
  | none => rw [Blk.plain, hf] at h; cases h
  | some f => rfl

theorem canRead_iff {keys : List Key} {b : Blk} : canRead keys b = true ↔ ∀ k, b.enc = some k → k ∈ keys := by
  unfold canRead
  cases b.enc with
  | none => exact ⟨fun _ _ e => (nomatch e), fun _ => rfl⟩
  | some k => exact ⟨fun h _ e => Option.some.inj e ▸ List.contains_iff_mem.mp h, fun h => List.contains_iff_mem.mpr (h k rfl)⟩

theorem mem_stored {keys : List Key} {blocks : List Blk} {p : Nat × FName} :
    p ∈ stored keys blocks ↔ ∃ b ∈ blocks, b.field = some p.2 ∧ b.op = p.1 ∧ canRead keys b = true := by
  unfold stored
  rw [List.mem_filterMap]
  refine exists_congr fun b => and_congr_right fun _ => ?_
  cases b.field with
  | none => exact ⟨fun h => (nomatch h), fun h => (nomatch h.1)⟩
  | some f =>
    cases canRead keys b with
    | false => exact ⟨fun h => (nomatch h), fun h => (nomatch h.2.2)⟩
    | true =>
      obtain ⟨o, g⟩ := p
      simp only [if_true, Option.some.injEq, Prod.mk.injEq, and_true]
      exact ⟨fun h => ⟨h.2, h.1⟩, fun h => ⟨h.2, h.1⟩⟩

end Defra.Encrypt

