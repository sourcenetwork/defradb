import DefraModel.Proofs.CrdtWalk

/-!
`isMerged` decides "head or ancestor of a head" (`Reach`): sound in every store, complete in a well-formed one. One
level of its breadth-first walk is specified once (`level_spec`); completeness keeps the closure invariant of a
breadth-first search (`Explored`); the fuel suffices because the number of stored blocks strictly below a block
(`rank`) drops along every parent link.

The reachability relations of the CRDT proofs (parent links, except the last):
* `Reach bs heads t`: `t` is a head or an ancestor of a head, i.e. merged;
* `Path bs y t n`: `n` links from `y` down to `t` through stored blocks; `Anc bs c t`: `∃ n, Path bs c t n`;
* `BfsPath bs height t y n`: a `Path` whose blocks before `t` lie above `height`: what `isMerged` can follow;
* `UPath bs heads c x` (CrdtWalk): from `c` to `x` through stored, unmerged blocks: what `loadComposites` can follow;
* `LReach bs c x` (CrdtVersionedReplay): from `c` to `x` through `links`.
-/
namespace Defra.Crdt

inductive Reach (bs : Blocks) (heads : List Nat) : Nat → Prop where
  | head {x : Nat} : x ∈ heads → Reach bs heads x
  | parent {y p : Nat} {b : Block} : Reach bs heads y → bs.get? y = some b → p ∈ b.parents → Reach bs heads p

def expand (bs : Blocks) (height c : Nat) : List Nat :=
  match bs.get? c with
  | none => []
  | some blk => if blk.height ≤ height then [] else blk.parents

theorem mem_expand {bs : Blocks} {height c p : Nat} :
    p ∈ expand bs height c ↔ ∃ b, bs.get? c = some b ∧ height < b.height ∧ p ∈ b.parents := by
  unfold expand
  split
  · next h => simp [h]
  · next b h =>
    simp only [h, Option.some.injEq, exists_eq_left']
    split
    · next h => exact ⟨fun hp => absurd hp List.not_mem_nil, fun ⟨h', _⟩ => absurd h (Nat.not_le.mpr h')⟩
    · next h => exact ⟨fun hp => ⟨Nat.lt_of_not_le h, hp⟩, fun ⟨_, hp⟩ => hp⟩

/-- `p` joins the next frontier (`a.1`) and `seen` (`a.2`) unless seen -/
def seeNew (a : List Nat × List Nat) (p : Nat) : List Nat × List Nat :=
  if a.2.contains p then a else (a.1 ++ [p], a.2 ++ [p])

theorem foldl_seeNew (ps : List Nat) (a : List Nat × List Nat) :
    ∃ l, ps.foldl seeNew a = (a.1 ++ l, a.2 ++ l) ∧ ∀ x, x ∈ l ↔ (x ∈ ps ∧ x ∉ a.2) := by
  induction ps generalizing a with
  | nil => exact ⟨[], by simp, by simp⟩
  | cons p t ih =>
    rw [List.foldl_cons, seeNew]
    by_cases hc : a.2.contains p = true
    · rw [if_pos hc]
      obtain ⟨l, h1, h2⟩ := ih a
      have hp : p ∈ a.2 := by simpa using hc
      -- `p` itself is excluded on both sides
      exact ⟨l, h1, fun x => (h2 x).trans (and_congr_left fun hn =>
        ⟨List.mem_cons_of_mem _, fun h => (List.mem_cons.mp h).resolve_left fun e => hn (e ▸ hp)⟩)⟩
    · rw [if_neg hc]
      obtain ⟨l, h1, h2⟩ := ih (a.1 ++ [p], a.2 ++ [p])
      have hp : p ∉ a.2 := by simpa using hc
      refine ⟨p :: l, by simpa using h1, fun x => ?_⟩
      rw [List.mem_cons, h2, List.mem_cons]
      by_cases hx : x = p
      · subst hx; exact ⟨fun _ => ⟨Or.inl rfl, hp⟩, fun _ => Or.inl rfl⟩
      · simp only [hx, false_or, List.mem_append, List.mem_singleton, or_false]

theorem level_eq (bs : Blocks) (height : Nat) (frontier : List Nat) (a : List Nat × List Nat) :
    frontier.foldl (fun (acc : List Nat × List Nat) c =>
        match bs.get? c with
        | none => acc
        | some blk =>
          if blk.height ≤ height then acc
          else blk.parents.foldl (fun (a : List Nat × List Nat) p =>
            if a.2.contains p then a else (a.1 ++ [p], a.2 ++ [p])) acc) a =
      (frontier.flatMap (expand bs height)).foldl seeNew a := by
  rw [List.foldl_flatMap]
  congr
  funext acc x
  unfold expand
  cases bs.get? x with
  | none => rfl
  | some b =>
    dsimp only
    by_cases h : b.height ≤ height
    · rw [if_pos h, if_pos h]; rfl
    · rw [if_neg h, if_neg h]; rfl

theorem isMergedAux_succ (bs : Blocks) (target height fuel : Nat) (c : Nat) (t : List Nat) (seen : List Nat) :
    isMergedAux bs target height (fuel + 1) (c :: t) seen =
      if (c :: t).contains target then true
      else isMergedAux bs target height fuel
        (((c :: t).flatMap (expand bs height)).foldl seeNew ([], seen)).1
        (((c :: t).flatMap (expand bs height)).foldl seeNew ([], seen)).2 := by
  rw [isMergedAux, ← level_eq]
  · rfl
  · -- the equation of `isMergedAux` for this case asks that the frontier is not `[]`
    intro h; cases h

theorem level_spec (bs : Blocks) (height : Nat) (frontier seen : List Nat) :
    ∃ l, (frontier.flatMap (expand bs height)).foldl seeNew ([], seen) = (l, seen ++ l) ∧
      ∀ x, x ∈ l ↔ ((∃ c ∈ frontier, x ∈ expand bs height c) ∧ x ∉ seen) := by
  obtain ⟨l, h1, h2⟩ := foldl_seeNew (frontier.flatMap (expand bs height)) ([], seen)
  exact ⟨l, by simpa using h1, fun x => by rw [h2, List.mem_flatMap]⟩

theorem isMergedAux_sound (bs : Blocks) (heads : List Nat) (target height : Nat) :
    ∀ (fuel : Nat) (frontier seen : List Nat), (∀ c ∈ frontier, Reach bs heads c) →
      isMergedAux bs target height fuel frontier seen = true → Reach bs heads target := by
  intro fuel
  induction fuel with
  | zero => intro frontier seen _ h; simp [isMergedAux] at h
  | succ n ih =>
    intro frontier seen hf h
    cases frontier with
    | nil => simp [isMergedAux] at h
    | cons c t =>
      rw [isMergedAux_succ] at h
      split at h
      · next hc => exact hf target (by simpa using hc)
      · obtain ⟨l, h1, h2⟩ := level_spec bs height (c :: t) seen
        rw [h1] at h
        refine ih _ _ (fun x hx => ?_) h
        obtain ⟨⟨y, hy, hxy⟩, _⟩ := (h2 x).mp hx
        obtain ⟨b, hb, _, hp⟩ := mem_expand.mp hxy
        exact Reach.parent (hf y hy) hb hp

theorem isMerged_sound (bs : Blocks) (heads : List Nat) (target height : Nat)
    (h : isMerged bs heads target height = true) : Reach bs heads target :=
  isMergedAux_sound bs heads target height _ heads [] (fun _ hc => Reach.head hc) h

inductive BfsPath (bs : Blocks) (height t : Nat) : Nat → Nat → Prop where
  | zero : BfsPath bs height t t 0
  | succ {y p n : Nat} : p ∈ expand bs height y → BfsPath bs height t p n → BfsPath bs height t y (n + 1)

def Explored (bs : Blocks) (height t : Nat) (frontier seen : List Nat) : Prop :=
  ∀ z ∈ seen, z ∈ frontier ∨ (z ≠ t ∧ ∀ p ∈ expand bs height z, p ∈ seen)

theorem BfsPath.frontier {bs : Blocks} {height t : Nat} {frontier seen : List Nat}
    (hc : Explored bs height t frontier seen) {z n : Nat} (hp : BfsPath bs height t z n) (hz : z ∈ seen) :
    ∃ f ∈ frontier, ∃ m, m ≤ n ∧ BfsPath bs height t f m := by
  induction hp with
  | zero =>
    rcases hc t hz with h | h
    · exact ⟨t, h, 0, Nat.le_refl _, .zero⟩
    · exact absurd rfl h.1
  | @succ y p n hyp hrest ih =>
    rcases hc y hz with h | h
    · exact ⟨y, h, n + 1, Nat.le_refl _, .succ hyp hrest⟩
    · obtain ⟨f, hf, m, hm, hpm⟩ := ih (h.2 p hyp)
      exact ⟨f, hf, m, Nat.le_succ_of_le hm, hpm⟩

theorem isMergedAux_complete (bs : Blocks) (height t : Nat) :
    ∀ (fuel : Nat) (frontier seen : List Nat), Explored bs height t frontier seen →
      (∃ y ∈ frontier, ∃ n, n < fuel ∧ BfsPath bs height t y n) →
      isMergedAux bs t height fuel frontier seen = true := by
  intro fuel
  induction fuel with
  | zero => rintro _ _ _ ⟨_, _, _, hn, _⟩; omega
  | succ k ih =>
    rintro frontier seen hcl ⟨y, hy, n, hn, hp⟩
    cases frontier with
    | nil => cases hy
    | cons c tl =>
      rw [isMergedAux_succ]
      split
      · rfl
      · next hc =>
        have ht : t ∉ c :: tl := fun h => hc (List.contains_iff_mem.mpr h)
        obtain ⟨l, h1, h2⟩ := level_spec bs height (c :: tl) seen
        rw [h1]
        have hnext : ∀ z ∈ c :: tl, ∀ p ∈ expand bs height z, p ∈ seen ++ l := by
          intro z hz p hp
          by_cases hps : p ∈ seen
          · exact List.mem_append_left _ hps
          · exact List.mem_append_right _ ((h2 p).mpr ⟨⟨z, hz, hp⟩, hps⟩)
        have hcl' : Explored bs height t l (seen ++ l) := by
          intro z hz
          rcases List.mem_append.mp hz with hz | hz
          · right
            rcases hcl z hz with hf | ⟨hne, hd⟩
            · exact ⟨fun e => ht (e ▸ hf), hnext z hf⟩
            · exact ⟨hne, fun p hp => List.mem_append_left _ (hd p hp)⟩
          · exact Or.inl hz
        cases hp with
        | zero => exact absurd hy ht
        | @succ _ p n hyp hrest =>
          obtain ⟨f, hf, m, hm, hpm⟩ := hrest.frontier hcl' (hnext y hy p hyp)
          exact ih l _ hcl' ⟨f, hf, m, Nat.lt_of_le_of_lt hm (Nat.lt_of_succ_lt_succ hn), hpm⟩

/-- all the merge theorems use of C04's closure under ancestry and height rule -/
def WellFormed (bs : Blocks) : Prop :=
  ∀ y b, bs.get? y = some b → ∀ p ∈ b.parents, ∃ pb, bs.get? p = some pb ∧ pb.height < b.height

inductive Path (bs : Blocks) : Nat → Nat → Nat → Prop where
  | zero {t : Nat} : Path bs t t 0
  | succ {y p t : Nat} {b : Block} {n : Nat} : bs.get? y = some b → p ∈ b.parents → Path bs p t n → Path bs y t (n + 1)

def Anc (bs : Blocks) (c t : Nat) : Prop := ∃ n, Path bs c t n

theorem path_zero_eq {bs : Blocks} {y t : Nat} (h : Path bs y t 0) : y = t := by
  cases h; rfl

theorem Path.append {bs : Blocks} {x y z n m : Nat} (h1 : Path bs x y n) (h2 : Path bs y z m) :
    Path bs x z (n + m) := by
  induction h1 with
  | zero => rw [Nat.zero_add]; exact h2
  | succ hg hp _ ih => rw [Nat.add_right_comm]; exact .succ hg hp (ih h2)

theorem Path.snoc {bs : Blocks} {y z p : Nat} {b : Block} {n : Nat} (h : Path bs y z n) (hg : bs.get? z = some b)
    (hp : p ∈ b.parents) : Path bs y p (n + 1) := h.append (.succ hg hp .zero)

theorem reach_path {bs : Blocks} {heads : List Nat} {t : Nat} (h : Reach bs heads t) :
    ∃ y ∈ heads, ∃ n, Path bs y t n := by
  induction h with
  | head hx => exact ⟨_, hx, 0, Path.zero⟩
  | parent _ hg hp ih =>
    obtain ⟨y, hy, n, hpath⟩ := ih
    exact ⟨y, hy, n + 1, hpath.snoc hg hp⟩

def rank (bs : Blocks) (b : Block) : Nat := (bs.filter (fun x => x.height < b.height)).length

theorem rank_lt {bs : Blocks} {a b : Block} (ha : a ∈ bs) (h : a.height < b.height) : rank bs a < rank bs b := by
  refine ListLemmas.filter_length_lt_of_imp bs _ _ (fun x _ hx => ?_) ⟨a, ha, by simpa using h, by simp⟩
  simp only [decide_eq_true_eq] at hx ⊢; omega

/-- `μ`: anything that grows with the height (the height itself, `rank`) -/
theorem path_bfsPath {bs : Blocks} (wf : WellFormed bs) (μ : Block → Nat)
    (hμ : ∀ a b : Block, a ∈ bs → a.height < b.height → μ a < μ b) {y t n : Nat} (h : Path bs y t n) (tb : Block)
    (ht : bs.get? t = some tb) :
    ∃ yb, bs.get? y = some yb ∧ tb.height ≤ yb.height ∧ μ tb + n ≤ μ yb ∧ BfsPath bs tb.height t y n := by
  induction h with
  | zero => exact ⟨tb, ht, Nat.le_refl _, Nat.le_refl _, .zero⟩
  | @succ y p t' b n hg hp _ ih =>
    obtain ⟨pb, hpb, hle, hm, hpu⟩ := ih ht
    obtain ⟨pb', hpb', hlt⟩ := wf y b hg p hp
    rw [hpb] at hpb'; cases hpb'
    have hlt' := Nat.lt_of_le_of_lt hle hlt
    exact ⟨b, hg, Nat.le_of_lt hlt', Nat.succ_le_of_lt (Nat.lt_of_le_of_lt hm (hμ pb b (get?_mem hpb) hlt)),
      .succ (mem_expand.mpr ⟨b, hg, hlt', hp⟩) hpu⟩

theorem path_height (bs : Blocks) (wf : WellFormed bs) {y t n : Nat} (h : Path bs y t n) :
    ∀ yb tb, bs.get? y = some yb → bs.get? t = some tb → tb.height + n ≤ yb.height := by
  intro yb tb hy ht
  obtain ⟨yb', hy', _, hm, _⟩ := path_bfsPath wf (·.height) (fun _ _ _ h => h) h tb ht
  rw [hy] at hy'; cases hy'; exact hm

theorem isMerged_complete (bs : Blocks) (wf : WellFormed bs) (heads : List Nat) (t : Nat) (tb : Block)
    (ht : bs.get? t = some tb) (hr : Reach bs heads t) : isMerged bs heads t tb.height = true := by
  obtain ⟨y, hy, n, hpath⟩ := reach_path hr
  obtain ⟨yb, _, _, hm, hpu⟩ := path_bfsPath wf (rank bs) (fun a b ha h => rank_lt ha h) hpath tb ht
  have : rank bs yb ≤ bs.length := List.length_filter_le _ _
  exact isMergedAux_complete bs tb.height t _ heads [] (fun z hz => by cases hz) ⟨y, hy, n, by omega, hpu⟩

theorem isMerged_iff (bs : Blocks) (wf : WellFormed bs) (heads : List Nat) (t : Nat) (tb : Block)
    (ht : bs.get? t = some tb) : isMerged bs heads t tb.height = true ↔ Reach bs heads t :=
  ⟨isMerged_sound bs heads t tb.height, isMerged_complete bs wf heads t tb ht⟩

theorem isMerged_eq_false_of_not_reach {bs : Blocks} {heads : List Nat} {t : Nat} (k : Nat)
    (h : ¬ Reach bs heads t) : isMerged bs heads t k = false :=
  Bool.eq_false_iff.mpr fun hm => h (isMerged_sound bs heads t k hm)

theorem isMerged_eq_false_iff {bs : Blocks} (wf : WellFormed bs) (heads : List Nat) {t : Nat} {tb : Block}
    (ht : bs.get? t = some tb) : isMerged bs heads t tb.height = false ↔ ¬ Reach bs heads t := by
  rw [← isMerged_iff bs wf heads t tb ht, Bool.not_eq_true]

end Defra.Crdt
