import DefraModel.Query.Model
import DefraModel.Proofs.BytesLemmas

/-! The laws of a three-way comparison (`CmpLaws`) pass through `comap`, `neg` and `lex`; `vCompare` compares by kind,
    then number, then text (`vCompare_eq`), so the ordering keys have them from `intCmp` and `Bytes.cmp`. At the end,
    what `limitOffset` and `pipeline` can list. -/
namespace Defra.Query
open Defra.Bytes

/-- a three-way comparison that is a total preorder -/
structure CmpLaws {α : Type} (c : α → α → Int) : Prop where
  antisymm : ∀ a b, c a b = - c b a
  trans : ∀ a b d, c a b ≤ 0 → c b d ≤ 0 → c a d ≤ 0

theorem CmpLaws.refl {α : Type} {c : α → α → Int} (h : CmpLaws c) (a : α) : c a a = 0 := by
  have := h.antisymm a a; omega

variable {α β : Type} {c c₁ c₂ : α → α → Int}

theorem CmpLaws.lt_of_lt_of_le (h : CmpLaws c) {a b d : α} (h1 : c a b < 0) (h2 : c b d ≤ 0) : c a d < 0 := by
  have hle := h.trans a b d (by omega) h2
  -- were `c a d = 0` then d ≤ a, so b ≤ d ≤ a, against a < b
  have hba := fun hda : c d a ≤ 0 => h.trans b d a h2 hda
  have := h.antisymm a b; have := h.antisymm a d
  omega

theorem CmpLaws.lt_of_le_of_lt (h : CmpLaws c) {a b d : α} (h1 : c a b ≤ 0) (h2 : c b d < 0) : c a d < 0 := by
  have hle := h.trans a b d h1 (by omega)
  have hdb := fun hda : c d a ≤ 0 => h.trans d a b hda h1
  have := h.antisymm b d; have := h.antisymm a d
  omega

theorem CmpLaws.comap (h : CmpLaws c) (f : β → α) : CmpLaws (fun a b => c (f a) (f b)) :=
  ⟨fun a b => h.antisymm (f a) (f b), fun a b d => h.trans (f a) (f b) (f d)⟩

theorem CmpLaws.neg (h : CmpLaws c) : CmpLaws (fun a b => - c a b) := by
  constructor
  · intro a b; have := h.antisymm a b; omega
  · intro a b d h1 h2
    have := h.trans d b a (by have := h.antisymm b d; omega) (by have := h.antisymm a b; omega)
    have := h.antisymm a d; omega

theorem CmpLaws.lex (h₁ : CmpLaws c₁) (h₂ : CmpLaws c₂) :
    CmpLaws (fun a b => if c₁ a b = 0 then c₂ a b else c₁ a b) := by
  have le_iff : ∀ a b,
      (if c₁ a b = 0 then c₂ a b else c₁ a b) ≤ 0 ↔ c₁ a b < 0 ∨ c₁ a b = 0 ∧ c₂ a b ≤ 0 := by
    intro a b; split <;> omega
  constructor
  · intro a b
    simp only [h₁.antisymm b a, h₂.antisymm b a, Int.neg_eq_zero]
    split <;> rw [Int.neg_neg]
  · intro a b d
    simp only [le_iff]
    rintro (h1 | ⟨e1, h1⟩) h2
    · exact .inl (h₁.lt_of_lt_of_le h1 (by omega))
    · rcases h2 with h2 | ⟨e2, h2⟩
      · exact .inl (h₁.lt_of_le_of_lt (by omega) h2)
      · have := h₁.trans a b d (by omega) (by omega)
        have := h₁.trans d b a (by have := h₁.antisymm b d; omega) (by have := h₁.antisymm a b; omega)
        have := h₁.antisymm a d
        exact .inr ⟨by omega, h₂.trans a b d h1 h2⟩

theorem intCmp_le (p q : Int) : intCmp p q ≤ 0 ↔ p ≤ q := by
  unfold intCmp; split
  · omega
  · split <;> omega

theorem intCmp_laws : CmpLaws intCmp := by
  constructor
  · intro a b; unfold intCmp; split <;> split <;> omega
  · intro a b d; simp only [intCmp_le]; omega

theorem bytesCmp_le (a b : Bytes) : Bytes.cmp a b ≤ 0 ↔ Bytes.lt b a = false := by
  unfold Bytes.cmp
  cases hab : Bytes.lt a b <;> cases hba : Bytes.lt b a <;> simp
  have := lt_asymm a b hab; rw [hba] at this; cases this

theorem bytesCmp_laws : CmpLaws Bytes.cmp := by
  constructor
  · intro a b
    unfold Bytes.cmp
    cases hab : Bytes.lt a b <;> cases hba : Bytes.lt b a <;> simp
    have := lt_asymm a b hab; rw [hba] at this; cases this
  · intro a b d h1 h2
    rw [bytesCmp_le] at *
    exact Bytes.le_trans h1 h2

/-- `numKey`, `strKey`: what `vCompare` compares two values of one kind by -/
def V.numKey : V → Int
  | .bool b => if b then 1 else 0
  | v => v.num8.getD 0

def V.strKey : V → Bytes
  | .str s => s
  | _ => []

theorem vCompare_eq (a b : V) : vCompare a b =
    if intCmp a.tag b.tag = 0 then (if intCmp a.numKey b.numKey = 0 then Bytes.cmp a.strKey b.strKey
      else intCmp a.numKey b.numKey) else intCmp a.tag b.tag := by
  have h0 : ∀ x : Int, (if x = 0 then (0 : Int) else x) = x := by intro x; split <;> omega
  have h1 : Bytes.cmp [] [] = 0 := rfl
  cases a <;> cases b <;> simp [vCompare, V.tag, V.numKey, V.strKey, V.num8, intCmp, h0, h1]

theorem vCompare_laws : CmpLaws vCompare := by
  have := (intCmp_laws.comap (fun v : V => (v.tag : Int))).lex
    ((intCmp_laws.comap V.numKey).lex (bytesCmp_laws.comap V.strKey))
  exact ⟨fun a b => by simpa only [vCompare_eq] using this.antisymm a b,
    fun a b d => by simpa only [vCompare_eq] using this.trans a b d⟩

/-- comparison of two documents on one ordering key, normalised so that negative means "first" -/
def keyCmp (k : OrderKey) (a b : Doc) : Int :=
  let c := vCompare (a.get k.field) (b.get k.field)
  if k.desc then -c else c

theorem keyCmp_laws (k : OrderKey) : CmpLaws (keyCmp k) := by
  have h := vCompare_laws.comap (fun d : Doc => d.get k.field)
  unfold keyCmp
  cases k.desc
  · exact h
  · exact h.neg

/-- the three-way form of `lessLex` -/
def lexCmp : List OrderKey → Doc → Doc → Int
  | [], _, _ => 0
  | k :: rest, a, b => if keyCmp k a b = 0 then lexCmp rest a b else keyCmp k a b

theorem lexCmp_laws : ∀ (keys : List OrderKey), CmpLaws (lexCmp keys)
  | [] => ⟨fun _ _ => rfl, fun _ _ _ _ _ => Int.le_refl 0⟩
  | k :: rest => (keyCmp_laws k).lex (lexCmp_laws rest)

theorem lessLex_cons (k : OrderKey) (rest : List OrderKey) (a b : Doc) :
    lessLex (k :: rest) a b = if keyCmp k a b = 0 then lessLex rest a b else decide (keyCmp k a b < 0) := by
  obtain ⟨f, desc⟩ := k
  cases desc <;> simp only [lessLex, keyCmp, beq_iff_eq, Bool.false_eq_true, if_false, if_true, Int.neg_eq_zero]
  congr 2; exact propext (by omega)

theorem lessLex_iff (keys : List OrderKey) (a b : Doc) : lessLex keys a b = decide (lexCmp keys a b < 0) := by
  induction keys with
  | nil => simp [lessLex, lexCmp]
  | cons k rest ih => rw [lessLex_cons, lexCmp, ih]; split <;> rfl

/-- the relation the stable sort is run with: `a` may stay before `b` -/
def leLex (keys : List OrderKey) (a b : Doc) : Bool := !lessLex keys b a

theorem leLex_iff (keys : List OrderKey) (a b : Doc) : leLex keys a b = true ↔ lexCmp keys a b ≤ 0 := by
  unfold leLex
  rw [lessLex_iff]
  have := (lexCmp_laws keys).antisymm a b
  simp; omega

theorem leLex_trans (keys : List OrderKey) (a b d : Doc) (h1 : leLex keys a b = true) (h2 : leLex keys b d = true) :
    leLex keys a d = true := by
  rw [leLex_iff] at *
  exact (lexCmp_laws keys).trans a b d h1 h2

theorem leLex_total (keys : List OrderKey) (a b : Doc) : (leLex keys a b || leLex keys b a) = true := by
  have := (lexCmp_laws keys).antisymm a b
  rw [Bool.or_eq_true, leLex_iff, leLex_iff]
  omega

theorem limitOffset_sublist (limit offset : Nat) (l : List Doc) : (limitOffset limit offset l).Sublist l := by
  unfold limitOffset
  split
  · exact List.drop_sublist _ _
  · exact (List.take_sublist _ _).trans (List.drop_sublist _ _)

theorem mem_pipeline {less : List OrderKey → Doc → Doc → Bool} {q : Q} {docs : List Doc} {d : Doc}
    (h : d ∈ pipeline less q docs) : d ∈ docs ∧ q.filter.matches d = true := by
  have h := (limitOffset_sublist ..).subset h
  split at h
  · exact List.mem_filter.mp h
  · exact List.mem_filter.mp ((List.mergeSort_perm _ _).subset h)

end Defra.Query
