import DefraModel.Crdt.Height

/-! `AddDelta` takes a new commit's height from the heights recorded with the heads, never from the parent blocks: the
    height rule over histories rests on every recorded height being the height of its commit. -/
namespace Defra.Height

theorem maxHeight_eq (hs : Heads) : maxHeight hs = maxOf (hs.map (·.2)) := by
  simp [maxHeight, maxOf, List.foldl_map]

def RecordedHeightsTrue (s : St) : Prop := ∀ h ∈ s.heads, ∃ c ∈ s.commits, c.id = h.1 ∧ c.height = h.2

/-- the rule, against an assignment of heights to identifiers -/
def Good (H : Nat → Nat) (c : Commit) : Prop := c.height = maxOf (c.parents.map H) + 1

/-- the commit an operation adds; `step` records its identifier and height as a head -/
def added (s : St) : Op → Commit
  | .local id => ⟨id, maxHeight s.heads + 1, s.heads.map (·.1)⟩
  | .remote c => c

theorem step_commits (s : St) (op : Op) : (step s op).commits = s.commits ++ [added s op] := by
  cases op <;> rfl

theorem step_heads (s : St) (op : Op) :
    ∀ h ∈ (step s op).heads, h ∈ s.heads ∨ h = ((added s op).id, (added s op).height) := by
  intro h hh
  cases op with
  | «local» id => exact Or.inr (List.mem_singleton.mp hh)
  | remote c =>
    rcases List.mem_append.mp hh with hh | hh
    · exact Or.inl (List.mem_filter.mp hh).1
    · exact Or.inr (List.mem_singleton.mp hh)

theorem step_recordedHeightsTrue (s : St) (op : Op) (h : RecordedHeightsTrue s) : RecordedHeightsTrue (step s op) := by
  intro x hx
  rw [step_commits]
  rcases step_heads s op x hx with hm | rfl
  · obtain ⟨c, hc, e⟩ := h x hm
    exact ⟨c, List.mem_append_left _ hc, e⟩
  · exact ⟨added s op, List.mem_append_right _ (List.mem_singleton.mpr rfl), rfl, rfl⟩

theorem run_recordedHeightsTrue (ops : List Op) (s : St) (h : RecordedHeightsTrue s) : RecordedHeightsTrue (run s ops) :=
  List.foldlRecOn ops step h (fun s hs op _ => step_recordedHeightsTrue s op hs)

theorem local_obeys_rule (H : Nat → Nat) (s : St) (h : RecordedHeightsTrue s)
    (hH : ∀ c ∈ s.commits, H c.id = c.height) (id : Nat) : Good H (added s (.local id)) := by
  unfold Good added
  simp only
  rw [maxHeight_eq, List.map_map]
  congr 2
  apply List.map_congr_left
  intro x hx
  obtain ⟨c, hc, e1, e2⟩ := h x hx
  simp only [Function.comp]
  rw [← e1, hH c hc, e2]

theorem run_obeys_rule (H : Nat → Nat) (ops : List Op) : ∀ (s : St), RecordedHeightsTrue s →
    (∀ c ∈ s.commits, Good H c) →
    (∀ c, Op.remote c ∈ ops → Good H c) →
    (∀ c ∈ (run s ops).commits, H c.id = c.height) →
    ∀ c ∈ (run s ops).commits, Good H c := by
  induction ops with
  | nil => intro s _ hg _ _ c hc; exact hg c hc
  | cons op rest ih =>
    intro s ht hg hr hH
    apply ih (step s op) (step_recordedHeightsTrue s op ht) _ (fun c hc => hr c (List.mem_cons_of_mem _ hc)) hH
    intro c hc
    rw [step_commits, List.mem_append, List.mem_singleton] at hc
    rcases hc with hc | rfl
    · exact hg c hc
    · cases op with
      | «local» id =>
        -- `H` agrees with the commits of `s`: they are still there at the end
        refine local_obeys_rule H s ht (fun c hc => hH c ?_) id
        exact List.foldlRecOn (motive := fun s' => c ∈ s'.commits) _ step hc
          (fun s' hs' op' _ => by rw [step_commits]; exact List.mem_append_left _ hs')
      | remote c' => exact hr c' List.mem_cons_self

theorem maxOf_ge (l : List Nat) : ∀ x ∈ l, x ≤ maxOf l := by
  have hstep : (fun m x : Nat => if x > m then x else m) = max := by
    funext m x
    rw [Nat.max_def]
    by_cases h : m < x
    · rw [if_pos h, if_pos (Nat.le_of_lt h)]
    · rw [if_neg h]
      by_cases h2 : m ≤ x
      · rw [if_pos h2]; omega
      · rw [if_neg h2]
  intro x hx
  rw [maxOf, hstep, List.foldl_max, Nat.zero_max]
  exact List.le_max?_getD_of_mem hx

end Defra.Height
