/-
The multi-version store (`Kv/Mvcc.lean`): versions and clock change only when a transaction with writes commits, by
appending its writes at one new timestamp; hence snapshots are stable, and without a conflict reads are still current.
-/
import DefraModel.Kv.Mvcc
namespace Defra.Mvcc

def Wf (db : DB) : Prop :=
  (∀ v ∈ db.versions, v.ts ≤ db.clock) ∧ (∀ p ∈ db.txns, p.2.startTs ≤ db.clock)

theorem readAt_append_newer (vs new : List Version) (ts : Nat) (k : Key)
    (h : ∀ v ∈ new, v.ts > ts) : readAt (vs ++ new) ts k = readAt vs ts k := by
  unfold readAt
  have : new.filter (fun v => v.key == k && decide (v.ts ≤ ts)) = [] := by
    apply List.filter_eq_nil_iff.mpr
    intro v hv
    have := h v hv
    simp; intro _; omega
  rw [List.filter_append, this, List.append_nil]

theorem commit_installs (db : DB) (i : Nat) (t : Txn) (ht : db.txn? i = some t) (hne : t.writes.isEmpty = false)
    (h : (step db (.commit i)).2 = .committed) :
    hasConflict db.versions t = false ∧
    (step db (.commit i)).1.versions = db.versions ++ t.writes.map (fun w => ⟨w.1, db.clock + 1, w.2⟩) ∧
    (step db (.commit i)).1.clock = db.clock + 1 := by
  simp only [step, ht, hne] at h ⊢
  cases hl : t.live
  · rw [hl] at h; cases h
  cases hc : hasConflict db.versions t
  · exact ⟨rfl, rfl, rfl⟩
  · rw [hl, hc] at h; cases h

theorem step_unchanged_or_commit (db : DB) (a : Act) :
    ((step db a).1.versions = db.versions ∧ (step db a).1.clock = db.clock) ∨
    ∃ i t, a = .commit i ∧ db.txn? i = some t ∧ t.writes.isEmpty = false ∧ (step db a).2 = .committed := by
  cases a with
  | begin | outsideRead => exact Or.inl ⟨rfl, rfl⟩
  | read i k | write i k v =>
    cases ht : db.txn? i with
    | none => simp [step, ht]
    | some t => simp only [step, ht]; cases t.live <;> exact Or.inl ⟨rfl, rfl⟩
  | discard i => simp only [step]; cases db.txn? i <;> exact Or.inl ⟨rfl, rfl⟩
  | commit i =>
    cases ht : db.txn? i with
    | none => simp [step, ht]
    | some t =>
      simp only [step, ht]
      cases hl : t.live
      · exact Or.inl ⟨rfl, rfl⟩
      cases hw : t.writes.isEmpty
      · cases hc : hasConflict db.versions t
        · exact Or.inr ⟨i, t, rfl, ht, hw, rfl⟩
        · exact Or.inl ⟨rfl, rfl⟩
      · exact Or.inl ⟨rfl, rfl⟩

theorem step_appends (db : DB) (a : Act) :
    ∃ new, (step db a).1.versions = db.versions ++ new ∧ (∀ v ∈ new, v.ts = db.clock + 1) ∧
      db.clock ≤ (step db a).1.clock := by
  rcases step_unchanged_or_commit db a with ⟨hv, hc⟩ | ⟨i, t, rfl, ht, hne, h⟩
  · exact ⟨[], by rw [hv, List.append_nil], nofun, by rw [hc]; exact Nat.le_refl _⟩
  · obtain ⟨_, hv, hc⟩ := commit_installs db i t ht hne h
    exact ⟨_, hv, List.forall_mem_map.mpr fun _ _ => rfl, by omega⟩

theorem run_clock_mono (acts : List Act) : ∀ (db : DB), db.clock ≤ (runActs db acts).1.clock := by
  induction acts with
  | nil => intro db; exact Nat.le_refl _
  | cons a rest ih =>
    intro db
    obtain ⟨_, _, _, hc⟩ := step_appends db a
    simp only [runActs]
    exact Nat.le_trans hc (ih _)

theorem run_preserves_snapshot (acts : List Act) : ∀ (db : DB) (ts : Nat), ts ≤ db.clock → ∀ (k : Key),
    readAt (runActs db acts).1.versions ts k = readAt db.versions ts k := by
  induction acts with
  | nil => intro db ts _ k; rfl
  | cons a rest ih =>
    intro db ts hts k
    obtain ⟨new, hv, hnew, hc⟩ := step_appends db a
    rw [runActs, ih (step db a).1 ts (Nat.le_trans hts hc) k, hv]
    exact readAt_append_newer _ _ _ _ fun v hm => by have := hnew v hm; omega

theorem hasConflict_iff (vs : List Version) (t : Txn) :
    hasConflict vs t = true ↔ ∃ k ∈ t.reads, ∃ v ∈ vs, v.key = k ∧ t.startTs < v.ts := by
  simp only [hasConflict, List.any_eq_true, Bool.and_eq_true, beq_iff_eq, decide_eq_true_eq, gt_iff_lt]

theorem noConflict_read_current (vs : List Version) (t : Txn) (h : hasConflict vs t = false) (k : Key)
    (hk : k ∈ t.reads) (ts : Nat) (hts : t.startTs ≤ ts) : readAt vs ts k = readAt vs t.startTs k := by
  unfold readAt
  congr 2
  refine List.filter_congr fun v hv => ?_
  cases hkey : v.key == k
  · rfl
  · have hv' : v.ts ≤ t.startTs := Nat.le_of_not_lt fun hlt =>
      Bool.eq_false_iff.mp h ((hasConflict_iff vs t).mpr ⟨k, hk, v, hv, beq_iff_eq.mp hkey, hlt⟩)
    rw [Bool.true_and, Bool.true_and, decide_eq_true (Nat.le_trans hv' hts), decide_eq_true hv']

end Defra.Mvcc
