import DefraModel.Crdt.Versioned
import DefraModel.Proofs.CrdtVisit
import DefraModel.Proofs.CrdtIsMerged

/-! The worklist walk `closureAux` (the versioned fetcher's `seekNext`) reaches every stored ancestor and nothing else. -/
namespace Defra.Crdt

/-- fuel the walk may still need: a step for each block not yet in `acc` and one for each of its parents -/
def fuelNeeded (acc : List Nat) : Blocks → Nat
  | [] => 0
  | b :: bs => (if acc.contains b.id then 0 else b.parents.length + 1) + fuelNeeded acc bs

theorem fuelNeeded_nil (bs : Blocks) : fuelNeeded [] bs + 2 = seekFuel bs := by
  unfold seekFuel
  induction bs with
  | nil => rfl
  | cons b t ih => simp only [fuelNeeded, List.contains_nil, Bool.false_eq_true, if_false, List.map_cons, List.sum_cons]; omega

/-- visiting `c` pays for the block stored under it -/
theorem fuelNeeded_visit (acc : List Nat) (c : Nat) (hc : c ∉ acc) (bs : Blocks) :
    fuelNeeded (acc ++ [c]) bs ≤ fuelNeeded acc bs ∧
    ∀ b, bs.get? c = some b → fuelNeeded (acc ++ [c]) bs + (b.parents.length + 1) ≤ fuelNeeded acc bs := by
  induction bs with
  | nil => exact ⟨Nat.le_refl _, fun b h => by cases h⟩
  | cons x t ih =>
    obtain ⟨ih1, ih2⟩ := ih
    have hx : (acc ++ [c]).contains x.id = (acc.contains x.id || x.id == c) := by
      rw [List.contains_append, List.contains_cons, List.contains_nil, Bool.or_false]
    rw [Blocks.get?_cons]
    unfold fuelNeeded
    rw [hx]
    by_cases hxc : (x.id == c) = true
    · -- the block found: it is counted before the visit and not after
      have hxa : acc.contains x.id = false := by
        rw [beq_iff_eq.mp hxc]; simpa using hc
      simp only [hxa, hxc, Bool.or_true, if_true, Bool.false_eq_true, if_false, Nat.zero_add, Option.some.injEq]
      exact ⟨Nat.le_trans ih1 (Nat.le_add_left _ _), fun b hb => by
        subst hb; rw [Nat.add_comm]; exact Nat.add_le_add_left ih1 _⟩
    · simp only [hxc, Bool.or_false, Bool.false_eq_true, if_false]
      generalize (if acc.contains x.id = true then 0 else x.parents.length + 1) = k
      exact ⟨Nat.add_le_add_left ih1 k, fun b hb => by
        rw [Nat.add_assoc]; exact Nat.add_le_add_left (ih2 b hb) k⟩

theorem closureAux_closes (bs : Blocks) (fuel : Nat) (work acc : List Nat) (hf : work.length + fuelNeeded acc bs < fuel) :
    Closes (fun x => (bs.get? x).isSome) (bs.out (·.parents)) work acc (closureAux bs fuel work acc) := by
  fun_induction closureAux bs fuel work acc with
  | case1 => omega
  | case2 => exact Closes.refl (fun _ h => by cases h)
  | case3 fuel c rest acc hc ih =>
    have hrest := ih (by simp only [List.length_cons] at hf; omega)
    exact (Closes.refl (roots := [c]) (fun r hr _ => by rw [List.mem_singleton.mp hr]; simpa using hc)).append hrest
  | case4 fuel c rest acc hc hg ih =>
    have hrest := ih (by simp only [List.length_cons] at hf; omega)
    exact (Closes.refl (roots := [c]) (fun r hr h => by rw [List.mem_singleton.mp hr, hg] at h; cases h)).append hrest
  | case5 fuel c rest acc hc b hg ih =>
    have hvisit := (fuelNeeded_visit acc c (by simpa using hc) bs).2 b hg
    refine Closes.visit (by simp [hg]) ?_
    rw [Blocks.out_some hg]
    exact ih (by simp only [List.length_cons, List.length_append] at hf ⊢; omega)

/-- what the worklist walk guarantees -/
structure ClosurePost (bs : Blocks) (work acc res : List Nat) : Prop where
  keep : ∀ x ∈ acc, x ∈ res
  work_ : ∀ w ∈ work, (bs.get? w).isSome → w ∈ res
  closed : ∀ x ∈ res, x ∉ acc → ∃ b, bs.get? x = some b ∧ ∀ p ∈ b.parents, (bs.get? p).isSome → p ∈ res

theorem closureAux_post (bs : Blocks) (fuel : Nat) (work acc : List Nat) (h : work.length + fuelNeeded acc bs < fuel) :
    ClosurePost bs work acc (closureAux bs fuel work acc) := by
  have c := closureAux_closes bs fuel work acc h
  refine ⟨c.mono, c.start, fun x hx hnx => ?_⟩
  -- whatever the walk adds is stored
  have hst := c.only (fun x => x ∈ acc ∨ (bs.get? x).isSome) (fun _ h => Or.inl h) (fun _ _ h => Or.inr h)
    (fun _ _ _ _ h => Or.inr h) x hx
  obtain ⟨b, hb⟩ := Option.isSome_iff_exists.mp (hst.resolve_left hnx)
  exact ⟨b, hb, fun p hp => c.closed x hx hnx p (by rw [Blocks.out_some hb]; exact hp)⟩

theorem seekQueue_closes (bs : Blocks) (c : Nat) :
    Closes (fun x => (bs.get? x).isSome) (bs.out (·.parents)) [c] [] (seekQueue bs c) :=
  closureAux_closes bs _ _ _ (by have := fuelNeeded_nil bs; simp only [List.length_singleton]; omega)

theorem Path.isSome_start {bs : Blocks} {y x n : Nat} (h : Path bs y x n) (hx : (bs.get? x).isSome) :
    (bs.get? y).isSome := by
  cases h with
  | zero => exact hx
  | succ hg _ _ => rw [hg]; rfl

theorem seekQueue_complete (bs : Blocks) (c : Nat) (n x : Nat) (hp : Path bs c x n) (hx : (bs.get? x).isSome) :
    x ∈ seekQueue bs c := by
  have hc := (seekQueue_closes bs c).start c (List.mem_singleton.mpr rfl) (Path.isSome_start hp hx)
  have cl := (seekQueue_closes bs c).closed
  generalize seekQueue bs c = Q at hc cl ⊢
  induction hp with
  | zero => exact hc
  | succ hg hpar rest ih =>
    exact ih hx (cl _ hc (by simp) _ (by rw [Blocks.out_some hg]; exact hpar) (Path.isSome_start rest hx))

theorem seekQueue_sound (bs : Blocks) (c x : Nat) (hx : x ∈ seekQueue bs c) : Anc bs c x := by
  refine (seekQueue_closes bs c).only (Anc bs c) (fun _ h => by cases h) ?_ ?_ x hx
  · intro r hr _; rw [List.mem_singleton.mp hr]; exact ⟨0, Path.zero⟩
  · intro y ⟨n, hn⟩ z hz _
    obtain ⟨b, hg, hz⟩ := Blocks.mem_out.mp hz
    exact ⟨n + 1, hn.snoc hg hz⟩

end Defra.Crdt
