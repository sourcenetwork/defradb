import DefraModel.Backup.Export
import DefraModel.Proofs.ListLemmas
/-! The exporter of `Backup/Export.lean` writes, for every store without a chain of three documents, exactly the
    records `specRec` — content, the recorded new identifier of the referenced document, the new identifier. -/
namespace Defra.Backup.Export

/-- the new identifier of a document whose target references nothing (else) -/
def newIdOf (store : List Emp) (d : Emp) : Id :=
  match d.boss with
  | none => h d.content none
  | some fk =>
    if fk = d.id then h d.content none
    else match find store fk with
      | none => h d.content none
      | some t => h d.content (some (h t.content none))

/-- the foreign key to be written for `d` -/
def specFk (store : List Emp) (d : Emp) : Option Id :=
  d.boss.bind (fun fk => (find store fk).map (newIdOf store))

def specRec (store : List Emp) (d : Emp) : Rec := ⟨d.id, d.content, specFk store d, newIdOf store d⟩

theorem find_self {store : List Emp} {d : Emp} (hm : d ∈ store) (hn : (store.map (·.id)).Nodup) :
    find store d.id = some d :=
  ListLemmas.find?_key_of_nodup Emp.id hn hm

theorem cacheGet_cacheSet (c : Cache) (k v k' : Id) :
    cacheGet (cacheSet c k v) k' = if k = k' then some v else cacheGet c k' := by
  by_cases hk : k = k' <;> simp [cacheGet, cacheSet, hk]

/-- the cache only ever maps the identifier of a live document to that document's new identifier -/
def CInv (store : List Emp) (cache : Cache) : Prop :=
  ∀ k v, cacheGet cache k = some v → ∃ t, find store k = some t ∧ v = newIdOf store t

theorem cinv_set {store : List Emp} {cache : Cache} {t : Emp} (hc : CInv store cache)
    (ht : find store t.id = some t) : CInv store (cacheSet cache t.id (newIdOf store t)) := by
  intro k v hk
  rw [cacheGet_cacheSet] at hk
  by_cases he : t.id = k
  · rw [if_pos he] at hk
    exact ⟨t, he ▸ ht, (Option.some.inj hk).symm⟩
  · rw [if_neg he] at hk
    exact hc k v hk

theorem newIdOf_referrer {store : List Emp} {d t : Emp} {fk : Id} (hb : d.boss = some fk) (hs : fk ≠ d.id)
    (hf : find store fk = some t) : newIdOf store d = h d.content (some (h t.content none)) := by
  simp [newIdOf, hb, hs, hf]

/-- `noChain` for one document: the live document it references, itself included, gets its new identifier from its
    content alone -/
theorem newIdOf_referenced {store : List Emp} (hn : noChain store = true) (hnd : (store.map (·.id)).Nodup) {d t : Emp}
    (hd : d ∈ store) {fk : Id} (hb : d.boss = some fk) (hf : find store fk = some t) :
    newIdOf store t = h t.content none := by
  by_cases hs : fk = d.id
  · subst hs
    cases (find_self hd hnd).symm.trans hf
    simp [newIdOf, hb]
  · have := List.all_eq_true.mp hn d hd
    simp only [hb, hf, Bool.or_eq_true, beq_iff_eq, hs, false_or] at this
    unfold newIdOf
    cases hg : t.boss with
    | none => rfl
    | some g =>
      simp only [hg, Bool.or_eq_true, beq_iff_eq, Option.isNone_iff_eq_none] at this
      rcases this with h1 | h1 <;> simp [h1]

theorem resolve_spec {store : List Emp} (hn : noChain store = true) (hnd : (store.map (·.id)).Nodup)
    {cache : Cache} {d : Emp} (hd : d ∈ store) (hc : CInv store cache) :
    CInv store (resolve store cache d).2.2 ∧ recOf d (resolve store cache d).1 (resolve store cache d).2.1 = specRec store d := by
  have hself := find_self hd hnd
  unfold resolve
  cases hb : d.boss with
  | none => exact ⟨hc, by simp [recOf, specRec, specFk, newIdOf, hb]⟩
  | some fk =>
    simp only
    cases hg : cacheGet cache fk with
    | some nk =>
      obtain ⟨t, hft, hv⟩ := hc fk nk hg
      refine ⟨hc, ?_⟩
      by_cases hs : fk = d.id
      · subst hs
        simp [recOf, specRec, specFk, newIdOf, hb, hself]
      · have htn := newIdOf_referenced hn hnd hd hb hft
        have hdn := newIdOf_referrer hb hs hft
        simp [recOf, specRec, specFk, hdn, hb, hs, hft, hv, htn]
    | none =>
      simp only
      cases hft : find store fk with
      | none => exact ⟨hc, by simp [recOf, specRec, specFk, newIdOf, hb, hft]⟩
      | some t =>
        simp only
        have hti : t.id = fk := by simpa using List.find?_some hft
        have htn := newIdOf_referenced hn hnd hd hb hft
        refine ⟨?_, ?_⟩
        · split
          · rw [← htn]; exact cinv_set hc (hti.symm ▸ hft)
          · exact hc
        · by_cases hs : fk = d.id
          · subst hs
            cases hself.symm.trans hft
            simp [recOf, specRec, specFk, htn, hb, hself]
          · have hne : t.id ≠ d.id := by rw [hti]; exact hs
            have hdn := newIdOf_referrer hb hs hft
            simp [recOf, specRec, specFk, hdn, hb, hft, htn, hne]

theorem exportStep_spec {store : List Emp} (hn : noChain store = true) (hnd : (store.map (·.id)).Nodup)
    {cache : Cache} {out : List Rec} {d : Emp} (hd : d ∈ store) (hc : CInv store cache) :
    CInv store (exportStep store (cache, out) d).1 ∧
    (exportStep store (cache, out) d).2 = out ++ [specRec store d] := by
  obtain ⟨h1, h2⟩ := resolve_spec hn hnd hd hc
  unfold exportStep
  simp only [h2, and_true]
  split
  · exact cinv_set h1 (find_self hd hnd)
  · exact h1

theorem export_fold {store : List Emp} (hn : noChain store = true) (hnd : (store.map (·.id)).Nodup) :
    ∀ (ds : List Emp) (cache : Cache) (out : List Rec), (∀ d ∈ ds, d ∈ store) → CInv store cache →
    (ds.foldl (exportStep store) (cache, out)).2 = out ++ ds.map (specRec store)
  | [], _, _, _, _ => by simp
  | d :: ds, cache, out, hsub, hc => by
    obtain ⟨h1, h2⟩ := exportStep_spec (out := out) hn hnd (hsub d (List.mem_cons_self)) hc
    rw [List.foldl_cons, ← Prod.eta (exportStep store (cache, out) d), h2,
      export_fold hn hnd ds _ _ (fun x hx => hsub x (List.mem_cons_of_mem _ hx)) h1]
    simp

theorem exportImpl_eq_spec {store : List Emp} (hn : noChain store = true) (hnd : (store.map (·.id)).Nodup) :
    exportImpl store = store.map (specRec store) :=
  (export_fold hn hnd store [] [] (fun _ h => h) (fun _ _ hk => nomatch hk)).trans (List.nil_append _)

theorem newOf_spec (store0 store : List Emp) (k : Id) :
    newOf (store.map (specRec store0)) k = (find store k).map (newIdOf store0) := by
  rw [newOf, List.find?_map, Option.map_map]
  rfl

theorem importRec_spec {store : List Emp} (hn : noChain store = true) (hnd : (store.map (·.id)).Nodup)
    {d : Emp} (hd : d ∈ store) :
    (importRec (specRec store d)).id = (specRec store d).new ∧ (importRec (specRec store d)).boss = (specRec store d).fk := by
  unfold importRec
  refine ⟨?_, by split <;> rfl⟩
  cases hb : d.boss with
  | none => simp [specRec, specFk, newIdOf, hb]
  | some fk =>
    by_cases hs : fk = d.id
    · -- the key written is the new identifier itself, so the importer creates the document without it
      subst hs
      have e : specRec store d = ⟨d.id, d.content, some (h d.content none), h d.content none⟩ := by
        simp [specRec, specFk, newIdOf, hb, find_self hd hnd]
      simp [e]
    · cases hft : find store fk with
      | none =>
        have hdn : newIdOf store d = h d.content none := by simp [newIdOf, hb, hs, hft]
        simp [specRec, specFk, hb, hft, hdn]
      | some t =>
        have htn := newIdOf_referenced hn hnd hd hb hft
        have hdn := newIdOf_referrer hb hs hft
        have hne : h t.content none ≠ h d.content (some (h t.content none)) := List.ne_cons_self
        simp [specRec, specFk, hb, hft, hdn, htn, hne]

theorem roundTrip_of_noChain {store : List Emp} (hn : noChain store = true) (hnd : (store.map (·.id)).Nodup) :
    roundTripOk store = true := by
  unfold roundTripOk
  rw [exportImpl_eq_spec hn hnd]
  simp only [List.length_map, beq_self_eq_true, Bool.true_and]
  apply ListLemmas.all_zip_map
  intro d hd
  obtain ⟨h1, h2⟩ := importRec_spec hn hnd hd
  have h3 : (specRec store d).fk = expectedFk store (store.map (specRec store)) d := by
    unfold expectedFk
    simp only [specRec, specFk]
    cases hb : d.boss with
    | none => rfl
    | some fk =>
      simp only [Option.bind_some, newOf_spec]
      cases find store fk <;> rfl
  simp only [Bool.and_eq_true, beq_iff_eq]
  exact ⟨⟨⟨⟨rfl, rfl⟩, h3⟩, h1⟩, h2⟩

end Defra.Backup.Export
