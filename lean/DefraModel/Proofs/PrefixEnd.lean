/- `prefixEnd` read from the front (`pe`), and its bounds `pe_upper`, `pe_lower`. -/
import DefraModel.Encoding.FieldValue
import DefraModel.Proofs.BytesLemmas
namespace Defra.Enc
open Defra.Bytes

/-- `bytesPrefixEnd` read from the front: increment the last byte that is not `ff` and cut there;
    `none` when every byte is `ff` (Go then returns the input) -/
def pe : Bytes → Option Bytes
  | [] => none
  | x :: xs => match pe xs with
    | some r => some (x :: r)
    | none => if x = 255 then none else some [x + 1]

theorem prefixEndRev_snoc (l : Bytes) (x : Nat) :
    prefixEndRev (l ++ [x]) = match prefixEndRev l with
      | some r => some (r ++ [x])
      | none => if x = 255 then none else some [x + 1] := by
  induction l with
  | nil => simp [prefixEndRev]
  | cons y l ih =>
    simp only [List.cons_append, prefixEndRev]
    by_cases hy : y = 255
    · simp only [hy, if_true]; exact ih
    · simp [hy]

theorem prefixEndRev_reverse (p : Bytes) : (prefixEndRev p.reverse).map List.reverse = pe p := by
  induction p with
  | nil => simp [prefixEndRev, pe]
  | cons x xs ih =>
    rw [List.reverse_cons, prefixEndRev_snoc, pe, ← ih]
    cases prefixEndRev xs.reverse with
    | none => by_cases hx : x = 255 <;> simp [hx]
    | some r => simp

theorem prefixEnd_eq (p : Bytes) : prefixEnd p = (pe p).getD p := by
  unfold prefixEnd
  rw [← prefixEndRev_reverse]
  cases prefixEndRev p.reverse <;> simp

theorem pe_cons_eq_none {x : Nat} {xs : Bytes} (h : pe (x :: xs) = none) : pe xs = none ∧ x = 255 := by
  rw [pe] at h
  cases hx : pe xs with
  | some r => rw [hx] at h; cases h
  | none => exact ⟨rfl, Decidable.by_contra (fun hne => by simp [hx, hne] at h)⟩

theorem pe_cons_eq_some {x : Nat} {xs e : Bytes} (h : pe (x :: xs) = some e) :
    (∃ r, pe xs = some r ∧ e = x :: r) ∨ (pe xs = none ∧ x ≠ 255 ∧ e = [x + 1]) := by
  rw [pe] at h
  cases hx : pe xs with
  | some r => rw [hx] at h; exact Or.inl ⟨r, rfl, (Option.some.inj h).symm⟩
  | none =>
    rw [hx] at h
    by_cases h255 : x = 255
    · simp [h255] at h
    · rw [if_neg h255] at h; exact Or.inr ⟨rfl, h255, (Option.some.inj h).symm⟩

theorem pe_cons_ne_ff (x : Nat) (xs : Bytes) (hx : x ≠ 255) : ∃ e, pe (x :: xs) = some e :=
  Option.ne_none_iff_exists'.mp (fun h => hx (pe_cons_eq_none h).2)

/-- no byte string is decided above a `p` that is all `ff` (`pe p = none`) -/
theorem pe_none_slt : ∀ (p k : Bytes), pe p = none → IsBytes k → slt p k = false
  | [], k, _, _ => by simp
  | _ :: _, [], _, _ => by simp
  | x :: xs, y :: ys, h, hk => by
    obtain ⟨hy, hys⟩ := isBytes_cons_iff.mp hk
    obtain ⟨hx, rfl⟩ := pe_cons_eq_none h
    simp only [slt_cons, pe_none_slt xs ys hx hys, Bool.and_false, Bool.or_false, decide_eq_false_iff_not]
    omega

/-- every extension of `p` is decided below `prefixEnd p` -/
theorem pe_upper : ∀ (p s e : Bytes), pe p = some e → slt (p ++ s) e = true
  | [], _, _, h => by simp [pe] at h
  | x :: xs, s, e, h => by
    rcases pe_cons_eq_some h with ⟨r, hx, rfl⟩ | ⟨_, _, rfl⟩
    · rw [List.cons_append, slt_cons_same]; exact pe_upper xs s r hx
    · exact slt_of_head_lt (Nat.lt_succ_self x) _ _

/-- a byte string decided above `p` is not below `prefixEnd p` -/
theorem pe_lower : ∀ (p k e : Bytes), pe p = some e → slt p k = true → IsBytes k → lt k e = false
  | [], _, _, h, _, _ => by simp [pe] at h
  | _ :: _, [], _, _, hs, _ => by simp at hs
  | x :: xs, y :: ys, e, h, hs, hk => by
    have hys := (isBytes_cons_iff.mp hk).2
    rw [slt_cons_iff] at hs
    rw [← Bool.not_eq_true]
    rcases pe_cons_eq_some h with ⟨r, hx, rfl⟩ | ⟨hx, _, rfl⟩ <;> rw [lt_cons_iff]
    · rcases hs with hlt | ⟨rfl, hs'⟩
      · rintro (h | ⟨h, _⟩) <;> omega
      · rintro (h | ⟨_, h⟩)
        · omega
        · rw [pe_lower xs ys r hx hs' hys] at h; cases h
    · -- `xs` is all `ff`
      rcases hs with hlt | ⟨rfl, hs'⟩
      · rintro (h | ⟨_, h⟩)
        · omega
        · cases ys <;> cases h
      · rw [pe_none_slt xs ys hx hys] at hs'; cases hs'

end Defra.Enc
