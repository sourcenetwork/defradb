import DefraModel.Crdt.Model

/-! What a graph walk with a visited list achieves, said once for `closureAux` and `vmerge`: the list afterwards is the
    least extension of the list before that contains the roots and, with each new member, its successors. -/
namespace Defra.Crdt

/-- `only`: nothing else got in, as an induction principle. `want`: what the walk records (`closureAux` skips
    identifiers that are not stored, `vmerge` records all). -/
structure Closes (want : Nat → Prop) (next : Nat → List Nat) (roots before after : List Nat) : Prop where
  mono : ∀ x ∈ before, x ∈ after
  start : ∀ r ∈ roots, want r → r ∈ after
  closed : ∀ x ∈ after, x ∉ before → ∀ y ∈ next x, want y → y ∈ after
  only : ∀ P : Nat → Prop, (∀ x ∈ before, P x) → (∀ r ∈ roots, want r → P r) →
    (∀ y, P y → ∀ z ∈ next y, want z → P z) → ∀ x ∈ after, P x

namespace Closes
variable {want : Nat → Prop} {next : Nat → List Nat}

theorem refl {roots v : List Nat} (h : ∀ r ∈ roots, want r → r ∈ v) : Closes want next roots v v :=
  ⟨fun _ hx => hx, h, fun _ hx hnx => absurd hx hnx, fun _ hb _ _ => hb⟩

/-- `rest = []` for a recursive walk, the rest of the work list for `closureAux` -/
theorem visit {c : Nat} {rest a r : List Nat} (hw : want c)
    (h : Closes want next (next c ++ rest) (a ++ [c]) r) : Closes want next (c :: rest) a r := by
  obtain ⟨hmono, hc_in⟩ := List.forall_mem_append.mp h.mono
  obtain ⟨hnext, hrest⟩ := List.forall_mem_append.mp h.start
  refine ⟨hmono, List.forall_mem_cons.mpr ⟨fun _ => hc_in c (List.mem_singleton.mpr rfl), hrest⟩, ?_, ?_⟩
  · intro x hx hnx
    by_cases hxc : x = c
    · rw [hxc]; exact hnext
    · exact h.closed x hx (by simp [hnx, hxc])
  · intro P hb hr hs
    obtain ⟨hPc, hPrest⟩ := List.forall_mem_cons.mp hr
    exact h.only P (List.forall_mem_append.mpr ⟨hb, List.forall_mem_singleton.mpr (hPc hw)⟩)
      (List.forall_mem_append.mpr ⟨hs c (hPc hw), hPrest⟩) hs

theorem append {r1 r2 a b c : List Nat} (h1 : Closes want next r1 a b) (h2 : Closes want next r2 b c) :
    Closes want next (r1 ++ r2) a c := by
  refine ⟨fun x hx => h2.mono x (h1.mono x hx),
    List.forall_mem_append.mpr ⟨fun x hx hw => h2.mono x (h1.start x hx hw), h2.start⟩, ?_, ?_⟩
  · intro x hx hnx y hy hw
    by_cases hxb : x ∈ b
    · exact h2.mono y (h1.closed x hxb hnx y hy hw)
    · exact h2.closed x hx hxb y hy hw
  · intro P hb hr hs
    obtain ⟨hr1, hr2⟩ := List.forall_mem_append.mp hr
    exact h2.only P (h1.only P hb hr1 hs) hr2 hs

/-- `ok`: what each walk needs of the visited list (enough fuel); kept when the list grows -/
theorem foldl {σ : Type} (vis : σ → List Nat) (f : σ → Nat → σ) (ok : List Nat → Prop)
    (hok : ∀ v v', (∀ x ∈ v, x ∈ v') → ok v → ok v')
    (hf : ∀ a r, ok (vis a) → Closes want next [r] (vis a) (vis (f a r))) :
    ∀ (rs : List Nat) (a : σ), ok (vis a) → Closes want next rs (vis a) (vis (rs.foldl f a))
  | [], _, _ => refl (fun _ h => by cases h)
  | r :: rs, a, ha =>
    append (r1 := [r]) (hf a r ha) (foldl vis f ok hok hf rs (f a r) (hok _ _ (hf a r ha).mono ha))

end Closes

def Blocks.out (bs : Blocks) (sel : Block → List Nat) (x : Nat) : List Nat :=
  match bs.get? x with
  | some b => sel b
  | none => []

theorem Blocks.out_some {bs : Blocks} {sel : Block → List Nat} {x : Nat} {b : Block} (h : bs.get? x = some b) :
    bs.out sel x = sel b := by simp [Blocks.out, h]

theorem Blocks.mem_out {bs : Blocks} {sel : Block → List Nat} {x z : Nat} :
    z ∈ bs.out sel x ↔ ∃ b, bs.get? x = some b ∧ z ∈ sel b := by
  unfold Blocks.out
  cases bs.get? x <;> simp

end Defra.Crdt
