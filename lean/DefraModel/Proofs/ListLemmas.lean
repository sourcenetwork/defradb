/-
Facts about lists that several models need and core does not state. Core-only.
-/
namespace Defra.ListLemmas

/-- for lists of pairs used as maps (an entry is replaced by filtering its key out): looking up `k` is unaffected by
    filtering out another key `k'` -/
theorem find?_filter_ne {α β : Type} [BEq α] [LawfulBEq α] (m : List (α × β)) {k' k : α} (h : k' ≠ k) :
    (m.filter (fun p => p.1 != k')).find? (fun p => p.1 == k) = m.find? (fun p => p.1 == k) := by
  rw [List.find?_filter]
  congr 1; funext p
  by_cases hp : p.1 = k
  · simp [hp, Ne.symm h]
  · simp [hp]

/-- `hpf`: `p` cannot tell a rewritten entry from its image, so `find? p` stops at the same place -/
theorem find?_replace {α : Type} (p q : α → Bool) (f : α → α) (hpf : ∀ x, q x = true → p (f x) = p x) (l : List α) :
    (l.map fun x => if q x then f x else x).find? p = (l.find? p).map fun x => if q x then f x else x := by
  rw [List.find?_map]
  congr 2
  funext x
  simp only [Function.comp]
  split
  · next hx => exact hpf x hx
  · rfl

theorem sum_perm {l1 l2 : List Int} (hp : l1.Perm l2) : l1.sum = l2.sum := by
  induction hp with
  | nil => rfl
  | cons x _ ih => simp [ih]
  | swap x y l => simp only [List.sum_cons]; omega
  | trans _ _ ih1 ih2 => exact ih1.trans ih2

theorem all_zip_map {α β : Type} (f : α → β) (P : α × β → Bool) : ∀ (l : List α),
    (∀ a ∈ l, P (a, f a) = true) → (l.zip (l.map f)).all P = true
  | [], _ => rfl
  | a :: l, hall => by
    simp only [List.map_cons, List.zip_cons_cons, List.all_cons, Bool.and_eq_true]
    exact ⟨hall a List.mem_cons_self, all_zip_map f P l (fun x hx => hall x (List.mem_cons_of_mem _ hx))⟩

/-- a key prefix closed by a separator that occurs in neither segment matches exactly the equal segment -/
theorem prefix_sep_iff {α : Type} (s : α) (a b c : List α) (ha : s ∉ a) (hb : s ∉ b) :
    (a ++ [s]) <+: (b ++ [s] ++ c) ↔ a = b := by
  constructor
  · rintro ⟨t, ht⟩
    rw [List.append_assoc, List.append_assoc, List.append_eq_append_iff] at ht
    -- one of `a`, `b` extends the other by a list that is empty or starts with the separator
    rcases ht with ⟨_ | ⟨x, a'⟩, rfl, h⟩ | ⟨_ | ⟨x, c'⟩, rfl, h⟩
    · simp
    · rw [List.cons_append, List.cons_append, List.cons.injEq] at h
      exact absurd (List.mem_append_right _ (h.1 ▸ List.mem_cons_self)) hb
    · simp
    · rw [List.cons_append, List.cons_append, List.cons.injEq] at h
      exact absurd (List.mem_append_right _ (h.1 ▸ List.mem_cons_self)) ha
  · rintro rfl
    exact List.prefix_append _ _

theorem filter_length_lt_of_imp {α} (l : List α) (p q : α → Bool) (h : ∀ x ∈ l, p x = true → q x = true)
    (hw : ∃ x ∈ l, q x = true ∧ p x = false) : (l.filter p).length < (l.filter q).length := by
  obtain ⟨w, hwl, hwq, hwp⟩ := hw
  have : l.filter p = (l.filter q).filter p := by
    rw [List.filter_filter]
    exact List.filter_congr fun x hx => by cases hp : p x <;> simp [h x hx, hp]
  rw [this]
  exact List.length_filter_lt_length_iff_exists.mpr ⟨w, List.mem_filter.mpr ⟨hwl, hwq⟩, by simp [hwp]⟩

theorem not_contains_eq_true {v : List Nat} {i : Nat} : (!v.contains i) = true ↔ i ∉ v := by simp

theorem exists_mem_snoc {α} {p : α → Prop} {D : List α} {e : α} : (∃ b ∈ D ++ [e], p b) ↔ ((∃ b ∈ D, p b) ∨ p e) := by
  simp [or_and_right, exists_or]

theorem nodup_of_map {α β : Type} (f : α → β) {l : List α} (h : (l.map f).Nodup) : l.Nodup :=
  (List.pairwise_map.mp h).imp fun hne e => hne (congrArg f e)

theorem inj_of_nodup_map {α β : Type} (f : α → β) {l : List α} (hn : (l.map f).Nodup) {a b : α} (ha : a ∈ l)
    (hb : b ∈ l) (h : f a = f b) : a = b :=
  have hp := List.pairwise_map.mp hn
  List.Pairwise.forall_of_forall_of_flip (R := fun a b => f a = f b → a = b) (fun _ _ _ => rfl)
    (hp.imp fun hne e => absurd e hne) (hp.imp fun hne e => absurd e.symm hne) ha hb h

/-- where the key determines the member, looking a key up finds the member that has it -/
theorem find?_key_iff {α κ : Type} [BEq κ] [LawfulBEq κ] (f : α → κ) {l : List α}
    (huniq : ∀ x ∈ l, ∀ y ∈ l, f x = f y → x = y) {k : κ} {a : α} :
    l.find? (fun x => f x == k) = some a ↔ a ∈ l ∧ f a = k := by
  refine ⟨fun h => ⟨List.mem_of_find?_eq_some h, by simpa using List.find?_some h⟩, ?_⟩
  rintro ⟨ha, rfl⟩
  cases h : l.find? (fun x => f x == f a) with
  | none => simpa using List.find?_eq_none.mp h a ha
  | some x => rw [huniq x (List.mem_of_find?_eq_some h) a ha (by simpa using List.find?_some h)]

theorem find?_key_of_nodup {α κ : Type} [BEq κ] [LawfulBEq κ] (f : α → κ) {l : List α} (hn : (l.map f).Nodup) {a : α}
    (ha : a ∈ l) : l.find? (fun x => f x == f a) = some a :=
  (find?_key_iff f fun _ hx _ hy => inj_of_nodup_map f hn hx hy).mpr ⟨ha, rfl⟩

end Defra.ListLemmas
