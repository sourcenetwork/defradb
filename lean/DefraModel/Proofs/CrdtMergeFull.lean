import DefraModel.Proofs.CrdtMergeDocRefine

/-!
One delivered commit, end to end, for the whole document state: every head set (the composite one and one per field)
and the values. `processBlock` on a composite and its links is a sequence of `docStep`s (`flatSeq`), to which
`fold_docStep` applies.
-/
namespace Defra.Crdt

def FieldLinksDoc (bs : Blocks) (b : Block) : Prop :=
  FieldLinks bs b ∧ ∀ ch ∈ childBlocks bs b, ch.doc = b.doc

/-- the processing sequence: each collected composite, then the stored blocks it links -/
def flatSeq (bs : Blocks) (L : List Block) : List Block := L.flatMap (fun b => b :: childBlocks bs b)

theorem foldl_processBlock_doc (cx : Ctx) (n : Nat) (d : String) :
    ∀ (L : List Block) (r : Replica),
      (∀ b ∈ L, b.kind = .comp ∧ b.doc = d ∧ FieldLinksDoc cx.blocks b) →
      (L.foldl (fun r b => processBlock cx (n + 2) r b) r).doc d =
        (flatSeq cx.blocks L).foldl (docStep cx.blocks cx.known) (r.doc d) := by
  intro L r h
  rw [flatSeq, List.foldl_flatMap]
  refine List.foldl_rel (r := fun (r' : Replica) s => r'.doc d = s) rfl fun b hb r' s e => ?_
  obtain ⟨hk, hd, hfl⟩ := h b hb
  subst e hd
  rw [doc_processBlock_comp cx n r' b hk hfl.1 b.doc, if_pos rfl]
  exact List.foldl_rel rfl fun ch hch s s' e => by rw [e, if_pos (hfl.2 ch hch).symm]

theorem foldl_docStep_known (bs : Blocks) (known : Nat → Bool) :
    ∀ (seq : List Block) (s : DocState), (∀ e ∈ seq, ∀ l ∈ e.parents ++ e.links, known l = true) →
      seq.foldl (docStep bs known) s = seq.foldl (docStep bs (fun _ => true)) s :=
  fun _ _ h => List.foldl_rel rfl fun e he s s' hs => by
    rw [hs, docStep, docStep, updateHeads_known known _ e (h e he)]

theorem mem_flatSeq {bs : Blocks} {L : List Block} {e : Block} :
    e ∈ flatSeq bs L ↔ (e ∈ L ∨ ∃ b ∈ L, e ∈ childBlocks bs b) := by
  unfold flatSeq
  rw [List.mem_flatMap]
  constructor
  · rintro ⟨b, hb, he⟩
    rcases List.mem_cons.mp he with rfl | he
    · exact Or.inl hb
    · exact Or.inr ⟨b, hb, he⟩
  · rintro (h | ⟨b, hb, he⟩)
    · exact ⟨e, h, List.mem_cons_self⟩
    · exact ⟨b, hb, List.mem_cons_of_mem _ he⟩

/-- what `wfCheck3` establishes (`wfCheck3_sound`) -/
structure StoreWF3 (bs : Blocks) : Prop where
  base2 : StoreWF2 bs
  linkDoc : ∀ y b, bs.get? y = some b → b.kind = .comp → ∀ l ∈ b.links, ∀ lb, bs.get? l = some lb → lb.doc = b.doc
  fieldParents : ∀ y b f, bs.get? y = some b → b.kind = .field f → ∀ p ∈ b.parents, ∀ pb, bs.get? p = some pb →
    pb.kind = .field f
  /-- the parents of a field block linked by a composite are linked by strict ancestors of that composite -/
  fieldCausal : ∀ y b, bs.get? y = some b → b.kind = .comp → ∀ l ∈ b.links, ∀ fb, bs.get? l = some fb →
    ∀ p ∈ fb.parents, ∃ a ab n, Path bs y a (n + 1) ∧ bs.get? a = some ab ∧ ab.kind = .comp ∧ p ∈ ab.links

/-- what is linked by a merged composite is merged into the head set of its kind -/
def LinkInv (bs : Blocks) (s : DocState) : Prop :=
  ∀ a ab, bs.get? a = some ab → ab.kind = .comp → Reach bs s.heads a →
    ∀ l ∈ ab.links, ∀ lb, bs.get? l = some lb → Reach bs (headsOf s lb.kind) l

theorem walk_doc {bs : Blocks} (swf : StoreWF3 bs) {heads : List Nat} {c : Block} {L : List Block}
    (w : WalkFacts bs heads c.id L) (hc : bs.get? c.id = some c) (hck : c.kind = .comp) :
    ∀ b ∈ L, b.kind = .comp ∧ b.doc = c.doc ∧ FieldLinksDoc bs b := by
  intro b hb
  obtain ⟨h1, ⟨n, hn⟩, _⟩ := (w.mem b).mp hb
  have hbk := w.comp b hb
  refine ⟨hbk, (path_doc bs swf.base2 hn c hc hck b h1).2, swf.base2.fieldLinks _ _ h1 hbk, fun ch hch => ?_⟩
  obtain ⟨l, hl, hg⟩ := mem_childBlocks.mp hch
  exact swf.linkDoc _ _ h1 hbk l hl ch hg

theorem doc_processBlock_comp_other (cx : Ctx) (n : Nat) (r : Replica) (b : Block) (hk : b.kind = .comp)
    (hl : FieldLinksDoc cx.blocks b) (d : String) (hd : d ≠ b.doc) :
    (processBlock cx (n + 2) r b).doc d = r.doc d := by
  rw [doc_processBlock_comp cx n r b hk hl.1 d, if_neg hd]
  exact List.foldlRecOn (motive := fun s => s = r.doc d) _ _ rfl fun s h ch hch => by
    rw [if_neg (hl.2 ch hch ▸ hd), h]

theorem mergeDoc_other_doc (cx : Ctx) (swf : StoreWF3 cx.blocks) (r : Replica) (c : Block)
    (hc : cx.blocks.get? c.id = some c) (hck : c.kind = .comp) (d : String) (hd : d ≠ c.doc) :
    (mergeDoc cx r c).doc d = r.doc d := by
  have hL := walk_doc swf (walk_facts cx.blocks swf.base2.base (r.doc c.doc).heads c.id ⟨c, hc, hck⟩) hc hck
  refine List.foldlRecOn (motive := fun (r' : Replica) => r'.doc d = r.doc d) _ _ rfl fun r' h b hb => ?_
  obtain ⟨hbk, hbd, hfl⟩ := hL b hb
  rw [doc_processBlock_comp_other cx 2 r' b hbk hfl d (hbd ▸ hd), h]

theorem child_facts {bs : Blocks} (swf : StoreWF2 bs) {b fb : Block} (hst : bs.get? b.id = some b)
    (hbk : b.kind = .comp) (hfb : fb ∈ childBlocks bs b) :
    bs.get? fb.id = some fb ∧ (∃ f, fb.kind = .field f) ∧ fb.links = [] := by
  obtain ⟨l, hl, hg⟩ := mem_childBlocks.mp hfb
  obtain ⟨hf, hnl⟩ := swf.fieldLinks _ _ hst hbk l hl fb hg
  exact ⟨by rw [Blocks.get?_id hg]; exact hg, hf, hnl⟩

theorem flatSeq_elemOK {bs : Blocks} (swf : StoreWF3 bs) {heads : List Nat} {c : Nat} {L : List Block}
    (w : WalkFacts bs heads c L) :
    ∀ e ∈ flatSeq bs L, ElemOK bs e ∧ ∀ l ∈ e.parents ++ e.links, (bs.get? l).isSome = true := by
  have swf2 := swf.base2
  have hpar : ∀ e, bs.get? e.id = some e → ∀ l ∈ e.parents, (bs.get? l).isSome = true := by
    intro e hst l hl
    obtain ⟨pb, hpb, _⟩ := swf2.base.wf _ _ hst l hl
    rw [hpb]; rfl
  intro e he
  rcases mem_flatSeq.mp he with h | ⟨b, hb, hc'⟩
  · have hst := ((w.mem e).mp h).1
    refine ⟨elemOK_comp swf2.base hst (w.comp e h), fun l hl => ?_⟩
    exact (List.mem_append.mp hl).elim (hpar e hst l) (swf2.linksStored _ _ hst (w.comp e h) l)
  · obtain ⟨hst, ⟨f, hf⟩, hnl⟩ := child_facts swf2 ((w.mem b).mp hb).1 (w.comp b hb) hc'
    refine ⟨⟨hst, (by rw [hf]; exact Kind.noConfusion), fun p hp pb hpb => ?_, fun l hl => ?_⟩, fun l hl => ?_⟩
    · rw [hf]; exact swf.fieldParents _ _ f hst hf p hp pb hpb
    · rw [hnl] at hl; cases hl
    · rw [hnl, List.append_nil] at hl
      exact hpar e hst l hl

/-- a composite finds its parents earlier because the walk sorts by height; a linked field block because its parents are
    linked by strict ancestors of the composite (`fieldCausal`), which are merged (`LinkInv`) or collected and lower -/
theorem flatSeq_parentsFirst {bs : Blocks} (swf : StoreWF3 bs) {s0 : DocState} {c : Nat} {L : List Block}
    (w : WalkFacts bs s0.heads c L) (hli : LinkInv bs s0) :
    ParentsFirst (fun k t => Reach bs (headsOf s0 k) t) [] (flatSeq bs L) := by
  have wf := swf.base2.base.wf
  refine parentsFirst_flatMap _ (childBlocks bs) L [] w.sorted fun b hb e he p hp => ?_
  have hbst := ((w.mem b).mp hb).1
  rcases List.mem_cons.mp he with rfl | hfb
  · rcases w.parents_lower wf hb hp with h | ⟨a, ha, hlt, rfl⟩
    · left; rw [w.comp e hb]; exact h
    · exact Or.inr (Or.inr ⟨a, ha, hlt, List.mem_cons_self⟩)
  · obtain ⟨l, hl, hg⟩ := mem_childBlocks.mp hfb
    obtain ⟨hfst, ⟨f, hf⟩, _⟩ := child_facts swf.base2 hbst (w.comp b hb) hfb
    obtain ⟨a, ab, n, hpath, hga, hak, hpin⟩ := swf.fieldCausal _ _ hbst (w.comp b hb) l hl e hg p hp
    obtain ⟨pb, hpb, _⟩ := wf _ _ hfst p hp
    have hpk : pb.kind = .field f := swf.fieldParents _ _ f hfst hf p hp pb hpb
    obtain rfl := Blocks.get?_id hga
    by_cases hr : Reach bs s0.heads ab.id
    · left
      have := hli ab.id ab hga hak hr p hpin pb hpb
      rw [hpk] at this; rw [hf]; exact this
    · right; right
      obtain ⟨_, ⟨m, hm⟩, _⟩ := (w.mem b).mp hb
      refine ⟨ab, (w.mem ab).mpr ⟨hga, ⟨m + (n + 1), hm.append hpath⟩, hr⟩, ?_, List.mem_cons_of_mem _ ?_⟩
      · exact Nat.lt_of_lt_of_le (Nat.lt_add_of_pos_right (Nat.succ_pos n)) (path_height bs wf hpath b ab hbst hga)
      · exact List.mem_map.mpr ⟨pb, mem_childBlocks.mpr ⟨p, hpin, hpb⟩, Blocks.get?_id hpb⟩

/-- **One delivered commit, end to end, whole document state.** `I` is any invariant `applied` keeps under `GoodStep`.
    With `L` the sorted walk and `flatSeq … L` the processing sequence, the conjuncts: (1) `L` is exactly the
    ancestors-or-self of `c` not merged before, each once, parents first; (2) the blocks of the sequence are as `ElemOK`
    says; (3) `KInv` afterwards; (4) the merged set of every kind afterwards is the one before plus the blocks of that
    kind in the sequence; (5) the values afterwards are those before with the deltas of the blocks of the sequence not
    merged before, first occurrences; (6) `I` afterwards. -/
theorem mergeDoc_full_inv (cx : Ctx) (swf : StoreWF3 cx.blocks)
    (hknown : ∀ l, (cx.blocks.get? l).isSome = true → cx.known l = true)
    (I : DocState → Prop) (hI : ∀ s e, GoodStep cx.blocks s e → I s → I (applied s e))
    (r : Replica) (c : Block) (hc : cx.blocks.get? c.id = some c) (hck : c.kind = .comp)
    (hk : KInv cx.blocks (r.doc c.doc)) (hli : LinkInv cx.blocks (r.doc c.doc)) (hi0 : I (r.doc c.doc)) :
    WalkFacts cx.blocks (r.doc c.doc).heads c.id
      (sortByHeight (loadComposites cx.blocks (r.doc c.doc).heads (cx.blocks.length + 1) c.id ([], [])).1) ∧
    (∀ e ∈ flatSeq cx.blocks
      (sortByHeight (loadComposites cx.blocks (r.doc c.doc).heads (cx.blocks.length + 1) c.id ([], [])).1),
      ElemOK cx.blocks e) ∧
    KInv cx.blocks ((mergeDoc cx r c).doc c.doc) ∧
    (∀ k t, Reach cx.blocks (headsOf ((mergeDoc cx r c).doc c.doc) k) t ↔
      (Reach cx.blocks (headsOf (r.doc c.doc) k) t ∨
        ∃ b ∈ flatSeq cx.blocks
          (sortByHeight (loadComposites cx.blocks (r.doc c.doc).heads (cx.blocks.length + 1) c.id ([], [])).1),
          b.id = t ∧ b.kind = k)) ∧
    ((mergeDoc cx r c).doc c.doc).vals =
      (appliedSeq cx.blocks (r.doc c.doc) (flatSeq cx.blocks
        (sortByHeight (loadComposites cx.blocks (r.doc c.doc).heads (cx.blocks.length + 1) c.id ([], [])).1))).foldl
          applyDelta (r.doc c.doc).vals ∧
    I ((mergeDoc cx r c).doc c.doc) := by
  have wf := swf.base2.base.wf
  have w := walk_facts cx.blocks swf.base2.base (r.doc c.doc).heads c.id ⟨c, hc, hck⟩
  rw [mergeDoc_eq]
  generalize sortByHeight (loadComposites cx.blocks (r.doc c.doc).heads (cx.blocks.length + 1) c.id ([], [])).1 = L
    at w ⊢
  have hok := flatSeq_elemOK swf w
  rw [foldl_processBlock_doc cx 2 c.doc L r (walk_doc swf w hc hck),
    foldl_docStep_known cx.blocks cx.known _ _ fun e he l hl => hknown l ((hok e he).2 l hl)]
  obtain ⟨r1, r2, r3, r4⟩ := fold_docStep cx.blocks wf (r.doc c.doc) I hI (flatSeq cx.blocks L) [] (r.doc c.doc) hi0
    (fun e he => (hok e he).1) (fun e he => hk e (get?_mem (hok e he).1.stored)) (by intro k t; simp) rfl
    (flatSeq_parentsFirst swf w hli)
  simp only [List.nil_append] at r3 r4
  exact ⟨w, fun e he => (hok e he).1, fun x hx => r2 _ (hk x hx), r3, r4, r1⟩

end Defra.Crdt
