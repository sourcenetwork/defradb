import DefraModel.Crdt.Model

/-!
`updateHeads` as a set operation: the named heads go, the block comes.
"The heads are the merged commits without a merged child" is stated three times, each proved from `updateHeads_mem`
and none from another (translating between identifiers, lists of blocks and `Reach` is longer than the step):
`HeadsAreMaximal` here (abstract parent relation, one step), `HeadsOfMerged` below (commits merged
parents-first), `HeadsChildless` in CrdtConverge (the head sets of a document under `mergeDoc`).
-/
namespace Defra.Crdt

/-- how `updateHeads` writes a head -/
def addNew (h : List Nat) (x : Nat) : List Nat := if h.contains x then h else h ++ [x]

theorem mem_addNew {h : List Nat} {x y : Nat} : y ∈ addNew h x ↔ y ∈ h ∨ y = x := by
  unfold addNew
  split
  · rename_i hc
    exact ⟨Or.inl, fun o => o.elim id (fun e => e ▸ List.contains_iff_mem.mp hc)⟩
  · simp

theorem nodup_addNew {h : List Nat} (hn : h.Nodup) (x : Nat) : (addNew h x).Nodup := by
  unfold addNew
  split
  · exact hn
  · rename_i hc
    exact List.nodup_append.mpr ⟨hn, by simp, fun a ha b hb e =>
      hc (List.contains_iff_mem.mpr (List.mem_singleton.mp hb ▸ e ▸ ha))⟩

/-- the `for _, l := range block.AllLinks()` loop with every block stored: both branches erase `l` (a no-op if `l` is
    no head) and write the block -/
theorem updateHeads_eq (heads : List Nat) (b : Block) :
    updateHeads (fun _ => true) heads b =
      (b.parents ++ b.links).foldl (fun h l => addNew (h.erase l) b.id)
        (if b.parents.isEmpty then addNew heads b.id else heads) := by
  show List.foldl _ _ _ = _
  congr 1
  funext h l
  by_cases hc : h.contains l = true
  · rw [if_pos hc]; rfl
  · rw [if_neg hc, if_pos rfl, List.erase_of_not_mem (fun m => hc (List.contains_iff_mem.mpr m))]; rfl

theorem self_mem_foldl_erase_addNew (bid : Nat) : ∀ (ls h : List Nat),
    bid ∈ ls.foldl (fun h l => addNew (h.erase l) bid) h ↔ ls ≠ [] ∨ bid ∈ h
  | [], h => by simp
  | l :: ls, h => by
    rw [List.foldl_cons, self_mem_foldl_erase_addNew bid ls]
    exact iff_of_true (Or.inr (mem_addNew.mpr (Or.inr rfl))) (Or.inl (List.cons_ne_nil _ _))

theorem mem_foldl_erase_addNew {bid x : Nat} (hx : x ≠ bid) : ∀ (ls h : List Nat), h.Nodup →
    (x ∈ ls.foldl (fun h l => addNew (h.erase l) bid) h ↔ x ∈ h ∧ x ∉ ls)
  | [], h, _ => by simp
  | l :: ls, h, hn => by
    -- the induction hypothesis after one round, which leaves what is in `h` and not `l`
    rw [List.foldl_cons, mem_foldl_erase_addNew hx ls _ (nodup_addNew (hn.erase l) bid), mem_addNew, or_iff_left hx,
      hn.mem_erase_iff, List.mem_cons, not_or, and_comm (a := x ≠ l), and_assoc]

theorem updateHeads_mem (heads : List Nat) (b : Block) (hn : heads.Nodup) (x : Nat) :
    x ∈ updateHeads (fun _ => true) heads b ↔ (x = b.id ∨ (x ∈ heads ∧ x ∉ b.parents ++ b.links)) := by
  rw [updateHeads_eq]
  by_cases hx : x = b.id
  · -- a block without parents is written before the loop, otherwise the loop runs at least once
    rw [hx, self_mem_foldl_erase_addNew]
    refine iff_of_true ?_ (Or.inl rfl)
    by_cases hp : b.parents.isEmpty = true
    · rw [if_pos hp]; exact Or.inr (mem_addNew.mpr (Or.inr rfl))
    · exact Or.inl (fun e => hp (by simp [(List.append_eq_nil_iff.mp e).1]))
  · rw [or_iff_right hx]
    by_cases hp : b.parents.isEmpty = true
    · rw [if_pos hp, mem_foldl_erase_addNew hx _ _ (nodup_addNew hn b.id), mem_addNew, or_iff_left hx]
    · rw [if_neg hp, mem_foldl_erase_addNew hx _ _ hn]

theorem updateHeads_nodup (heads : List Nat) (b : Block) (hn : heads.Nodup) :
    (updateHeads (fun _ => true) heads b).Nodup := by
  rw [updateHeads_eq]
  refine List.foldlRecOn _ _ ?_ (fun h hn l _ => nodup_addNew (hn.erase l) b.id)
  by_cases hp : b.parents.isEmpty = true
  · rw [if_pos hp]; exact nodup_addNew hn b.id
  · rw [if_neg hp]; exact hn

/-- `S` merged commits (a predicate), `par` the parent relation: `heads` lists the members of `S`
    that no member of `S` names as parent -/
def HeadsAreMaximal (par : Nat → Nat → Prop) (S : Nat → Prop) (heads : List Nat) : Prop :=
  ∀ x, x ∈ heads ↔ (S x ∧ ∀ y, S y → ¬ par y x)

theorem heads_maximal_step (par : Nat → Nat → Prop) (S : Nat → Prop) (heads : List Nat) (b : Block)
    (hn : heads.Nodup)
    (parb : ∀ x, par b.id x ↔ x ∈ b.parents)
    (hclosed : ∀ y x, S y → par y x → S x)
    (hnew : ¬ S b.id)
    (hself : b.id ∉ b.parents)
    (hlinks : ∀ l ∈ b.links, l ∉ heads)
    (hinv : HeadsAreMaximal par S heads) :
    HeadsAreMaximal par (fun x => S x ∨ x = b.id) (updateHeads (fun _ => true) heads b) := by
  intro x
  -- "no merged commit names `x` as parent" splits into the old commits and `b`
  simp only [updateHeads_mem heads b hn, or_imp, forall_and, forall_eq, parb]
  by_cases hx : x = b.id
  · rw [hx]
    exact iff_of_true (Or.inl rfl)
      ⟨Or.inr rfl, fun y hy hp => hnew (hclosed y _ hy hp), hself⟩
  · rw [or_iff_right hx, or_iff_left hx, hinv x, List.mem_append, not_or]
    constructor
    · rintro ⟨⟨hS, hM⟩, hp, _⟩
      exact ⟨hS, hM, hp⟩
    · rintro ⟨hS, hM, hp⟩
      exact ⟨⟨hS, hM⟩, hp, fun hl => hlinks x hl ((hinv x).mpr ⟨hS, hM⟩)⟩

/-- the head set after merging the commits of `bs` in order -/
def foldHeads (bs : List Block) : List Nat := bs.foldl (updateHeads (fun _ => true)) []

def HeadsOfMerged (merged : List Block) (heads : List Nat) : Prop :=
  heads.Nodup ∧ ∀ x, x ∈ heads ↔ (x ∈ merged.map (·.id) ∧ ∀ b ∈ merged, x ∉ b.parents)

/-- a history in which every commit arrives after its parents, identifiers are distinct, and links name blocks of
    other DAGs (field blocks), never commits of this one -/
structure Causal (bs : List Block) : Prop where
  ids : (bs.map (·.id)).Nodup
  parentsFirst : ∀ pre b post, bs = pre ++ b :: post → ∀ p ∈ b.parents, p ∈ pre.map (·.id)
  links : ∀ b ∈ bs, ∀ l ∈ b.links, l ∉ bs.map (·.id)

theorem headsOfMerged_step (pre : List Block) (b : Block) (post : List Block) (hc : Causal (pre ++ b :: post))
    (heads : List Nat) (h : HeadsOfMerged pre heads) :
    HeadsOfMerged (pre ++ [b]) (updateHeads (fun _ => true) heads b) := by
  obtain ⟨hn, hx⟩ := h
  have hids := hc.ids
  have hbpre : b.id ∉ pre.map (·.id) := by
    rw [List.map_append, List.map_cons] at hids
    have := (List.nodup_append.mp hids).2.2
    intro hm
    exact this _ hm _ List.mem_cons_self rfl
  have hpar : ∀ p ∈ b.parents, p ∈ pre.map (·.id) := hc.parentsFirst pre b post rfl
  have hlink : ∀ l ∈ b.links, l ∉ (pre ++ b :: post).map (·.id) :=
    hc.links b (List.mem_append_right _ List.mem_cons_self)
  -- a commit of `pre` cannot name `b` as parent: its parents come before it
  have hchild : ∀ b' ∈ pre, b.id ∉ b'.parents := by
    intro b' hb' hp
    obtain ⟨l1, l2, rfl⟩ := List.append_of_mem hb'
    have := hc.parentsFirst l1 b' (l2 ++ b :: post) (List.append_assoc _ _ _) _ hp
    exact hbpre (by rw [List.map_append]; exact List.mem_append_left _ this)
  refine ⟨updateHeads_nodup heads b hn, fun x => ?_⟩
  rw [updateHeads_mem heads b hn x, hx x]
  simp only [List.map_append, List.map_cons, List.map_nil, List.mem_append, List.mem_singleton, not_or, or_imp,
    forall_and, forall_eq]
  constructor
  · rintro (rfl | ⟨⟨hxm, hxc⟩, hxp, _⟩)
    · exact ⟨Or.inr rfl, hchild, fun h => hbpre (hpar _ h)⟩
    · exact ⟨Or.inl hxm, hxc, hxp⟩
  · rintro ⟨hxm | rfl, hxc, hxp⟩
    · exact Or.inr ⟨⟨hxm, hxc⟩, hxp, fun hl => hlink x hl (by rw [List.map_append]; exact List.mem_append_left _ hxm)⟩
    · exact Or.inl rfl

theorem headsOfMerged_fold (pre rest : List Block) (hc : Causal (pre ++ rest)) (heads : List Nat)
    (h : HeadsOfMerged pre heads) : HeadsOfMerged (pre ++ rest) (rest.foldl (updateHeads (fun _ => true)) heads) := by
  induction rest generalizing pre heads with
  | nil => simpa using h
  | cons b t ih =>
    simp only [List.foldl_cons]
    have hstep := headsOfMerged_step pre b t hc heads h
    have := ih (pre ++ [b]) (by simpa using hc) _ hstep
    simpa using this

theorem foldHeads_exact (bs : List Block) (hc : Causal bs) : HeadsOfMerged bs (foldHeads bs) := by
  have := headsOfMerged_fold [] bs (by simpa using hc) [] ⟨List.nodup_nil, by intro x; simp⟩
  simpa [foldHeads] using this

end Defra.Crdt
