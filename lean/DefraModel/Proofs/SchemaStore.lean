import DefraModel.Schema
import DefraModel.Proofs.ListLemmas

/-! The data store is a per-(document, field) maximum: lookup commutes with merging commits (`lookup_fold`) and the fold
    over one register returns its greatest commit (`isTop_store`), so the store is a function of the set of applied
    commits (`IsTop.unique`). At the end, two facts about the version set after `patch` and `setActive`. -/
namespace Defra.Schema

/-- does the commit belong to register (d, f)? -/
def inRegister (d : Nat) (f : Field) (c : Commit) : Bool := c.doc == d && c.field == f

theorem inRegister_iff {d : Nat} {f : Field} {c : Commit} : inRegister d f c = true ↔ c.doc = d ∧ c.field = f := by
  simp [inRegister]

/-- the register after `c`: the greater of what it held and `c` under `le`; `c` wins ties -/
def better (o : Option Commit) (c : Commit) : Commit :=
  match o with
  | none => c
  | some e => if le e.height e.value c.height c.value then c else e

/-- what one commit does to the register (d, f) -/
def combine (d : Nat) (f : Field) (o : Option Commit) (c : Commit) : Option Commit :=
  if inRegister d f c then some (better o c) else o

theorem lookup_eq (s : List Commit) (d : Nat) (f : Field) : lookup s d f = s.find? (inRegister d f) := rfl

/-- `find?` stops where it did, at the entry that is replaced if there is one -/
theorem lookup_applyCommit_same (s : List Commit) (c : Commit) :
    lookup (applyCommit s c) c.doc c.field = some (better (lookup s c.doc c.field) c) := by
  have hc : inRegister c.doc c.field c = true := inRegister_iff.mpr ⟨rfl, rfl⟩
  unfold applyCommit better
  simp only [lookup_eq]
  cases hl : s.find? (inRegister c.doc c.field) with
  | none =>
    show (s ++ [c]).find? _ = some c
    rw [List.find?_append, hl, List.find?_singleton, if_pos hc]
    rfl
  | some e =>
    show List.find? _ (if _ then _ else s) = some (if _ then c else e)
    by_cases hle : le e.height e.value c.height c.value = true
    · rw [if_pos hle, if_pos hle]
      exact (ListLemmas.find?_replace _ _ (fun _ => c) (fun _ hx => hc.trans hx.symm) s).trans
        (by rw [hl, Option.map_some, if_pos (List.find?_some hl)])
    · rw [if_neg hle, if_neg hle]
      exact hl

/-- what is appended or replaced in the commit's register is invisible to this `find?` -/
theorem lookup_applyCommit_other (s : List Commit) (c : Commit) {d : Nat} {f : Field} (hc : ¬ inRegister d f c = true) :
    lookup (applyCommit s c) d f = lookup s d f := by
  have hq : ∀ x, inRegister c.doc c.field x = true → inRegister d f c = inRegister d f x := fun x hx => by
    have := inRegister_iff.mp hx
    simp only [inRegister, this.1, this.2]
  unfold applyCommit
  simp only [lookup_eq]
  cases s.find? (inRegister c.doc c.field) with
  | none =>
    show (s ++ [c]).find? _ = _
    rw [List.find?_append, List.find?_singleton, if_neg hc, Option.or_none]
  | some e =>
    show List.find? _ (if _ then _ else s) = _
    by_cases hle : le e.height e.value c.height c.value = true
    · rw [if_pos hle]
      refine (ListLemmas.find?_replace _ _ (fun _ => c) hq s).trans ?_
      cases hd : s.find? (inRegister d f) with
      | none => rfl
      | some e' => exact congrArg some (if_neg fun h => hc ((hq e' h).trans (List.find?_some hd)))
    · rw [if_neg hle]

theorem lookup_applyCommit (s : List Commit) (c : Commit) (d : Nat) (f : Field) :
    lookup (applyCommit s c) d f = combine d f (lookup s d f) c := by
  unfold combine
  by_cases hc : inRegister d f c = true
  · obtain ⟨rfl, rfl⟩ := inRegister_iff.mp hc
    rw [if_pos hc]
    exact lookup_applyCommit_same s c
  · rw [if_neg hc]
    exact lookup_applyCommit_other s c hc

theorem lookup_fold (cs : List Commit) (s : List Commit) (d : Nat) (f : Field) :
    lookup (cs.foldl applyCommit s) d f = cs.foldl (combine d f) (lookup s d f) :=
  (List.foldl_hom (fun s => lookup s d f) fun s c => (lookup_applyCommit s c d f).symm).symm

/-- `le` of the model on commits, as a proposition (`le_iff`) -/
def cle (a b : Commit) : Prop := a.height < b.height ∨ (a.height = b.height ∧ a.value ≤ b.value)

theorem le_iff (a b : Commit) : le a.height a.value b.height b.value = true ↔ cle a b := by
  simp [le, cle]

theorem cle_total (a b : Commit) : cle a b ∨ cle b a := by
  unfold cle; omega

theorem cle_trans {a b c : Commit} (h1 : cle a b) (h2 : cle b c) : cle a c := by
  unfold cle at *; omega

theorem cle_refl (a : Commit) : cle a a := by unfold cle; omega

theorem cle_antisymm {d : Nat} {f : Field} {a b : Commit} (ha : inRegister d f a = true) (hb : inRegister d f b = true)
    (h1 : cle a b) (h2 : cle b a) : a = b := by
  obtain ⟨ad, af, ah, av⟩ := a
  obtain ⟨bd, bf, bh, bv⟩ := b
  obtain ⟨rfl, rfl⟩ := inRegister_iff.mp ha
  obtain ⟨rfl, rfl⟩ := inRegister_iff.mp hb
  simp only [cle] at h1 h2
  obtain ⟨rfl, rfl⟩ : ah = bh ∧ av = bv := by omega
  rfl

theorem better_spec (o : Option Commit) (c : Commit) :
    (better o c = c ∨ o = some (better o c)) ∧ cle c (better o c) ∧ ∀ e, o = some e → cle e (better o c) := by
  cases o with
  | none => exact ⟨.inl rfl, cle_refl c, nofun⟩
  | some e =>
    simp only [better]
    split
    · next hl => exact ⟨.inl rfl, cle_refl c, fun _ he => Option.some.inj he ▸ (le_iff e c).mp hl⟩
    · next hl =>
      exact ⟨.inr rfl, (cle_total e c).resolve_left fun h => hl ((le_iff e c).mpr h), fun _ he => Option.some.inj he ▸ cle_refl e⟩

/-- `o` is the register (d, f) of `cs`: one of its commits if any, above each of them -/
def IsTop (d : Nat) (f : Field) (cs : List Commit) (o : Option Commit) : Prop :=
  (∀ r, o = some r → r ∈ cs ∧ inRegister d f r = true) ∧ ∀ c ∈ cs, inRegister d f c = true → ∃ r, o = some r ∧ cle c r

theorem IsTop.snoc {d : Nat} {f : Field} {cs : List Commit} {o : Option Commit} (h : IsTop d f cs o) (c : Commit) :
    IsTop d f (cs ++ [c]) (combine d f o c) := by
  obtain ⟨b1, b2, b3⟩ := better_spec o c
  unfold combine
  by_cases hc : inRegister d f c = true
  · rw [if_pos hc]
    refine ⟨fun r hr => ?_, fun x hx hax => ?_⟩
    · cases hr
      rcases b1 with b1 | b1
      · exact ⟨List.mem_append_right _ (List.mem_singleton.mpr b1), b1.symm ▸ hc⟩
      · exact ⟨List.mem_append_left _ (h.1 _ b1).1, (h.1 _ b1).2⟩
    · rcases List.mem_append.mp hx with hx | hx
      · obtain ⟨r, hr, hxr⟩ := h.2 x hx hax
        exact ⟨_, rfl, cle_trans hxr (b3 r hr)⟩
      · exact ⟨_, rfl, List.mem_singleton.mp hx ▸ b2⟩
  · rw [if_neg hc]
    refine ⟨fun r hr => ⟨List.mem_append_left _ (h.1 r hr).1, (h.1 r hr).2⟩, fun x hx hax => ?_⟩
    rcases List.mem_append.mp hx with hx | hx
    · exact h.2 x hx hax
    · exact absurd (List.mem_singleton.mp hx ▸ hax) hc

theorem isTop_store (cs : List Commit) (d : Nat) (f : Field) : IsTop d f cs (lookup (cs.foldl applyCommit []) d f) := by
  rw [lookup_fold]
  have key : ∀ (cs pre : List Commit) (o : Option Commit), IsTop d f pre o →
      IsTop d f (pre ++ cs) (cs.foldl (combine d f) o) := by
    intro cs
    induction cs with
    | nil => intro pre o h; rwa [List.append_nil]
    | cons c t ih => intro pre o h; rw [List.append_cons]; exact ih _ _ (h.snoc c)
  exact key cs [] none ⟨fun _ h => (nomatch h), fun _ h => (nomatch h)⟩

theorem IsTop.unique {d : Nat} {f : Field} {cs cs' : List Commit} {o o' : Option Commit} (h : IsTop d f cs o)
    (h' : IsTop d f cs' o') (hm : ∀ c, inRegister d f c = true → (c ∈ cs ↔ c ∈ cs')) : o = o' := by
  -- what one list stores is below what any list stores that has its commits of the register
  have key : ∀ {cs cs' : List Commit} {o o' : Option Commit}, IsTop d f cs o → IsTop d f cs' o' →
      (∀ c, inRegister d f c = true → c ∈ cs → c ∈ cs') → ∀ r, o = some r → ∃ r', o' = some r' ∧ cle r r' :=
    fun h h' hsub r hr => h'.2 r (hsub r (h.1 r hr).2 (h.1 r hr).1) (h.1 r hr).2
  cases o with
  | none =>
    cases o' with
    | none => rfl
    | some r' => obtain ⟨_, e, -⟩ := key h' h (fun c ha => (hm c ha).mpr) r' rfl; cases e
  | some r =>
    obtain ⟨r', rfl, c12⟩ := key h h' (fun c ha => (hm c ha).mp) r rfl
    obtain ⟨_, e, c21⟩ := key h' h (fun c ha => (hm c ha).mpr) r' rfl
    cases e
    rw [cle_antisymm (h.1 r rfl).2 (h'.1 r' rfl).2 c12 c21]

theorem mem_patch_versions {n : Node} {f : Field} {sd : Bool} {v : Version} :
    v ∈ (patch n f sd).versions ↔ v ∈ n.versions ∨ v = n.active ++ [f] := by
  unfold patch
  simp only
  split
  · next hc => exact ⟨.inl, fun h => h.elim id fun e => e ▸ List.contains_iff_mem.mp hc⟩
  · simp

theorem setActive_of_mem {n : Node} {v : Version} (hv : n.versions.contains v = true) :
    setActive n v = { n with active := v } := if_pos hv

end Defra.Schema
