/-
Acknowledged histories (`Conc.lean`): a counter adds the contributions, a register holds the last acknowledged write,
a key of the shared transaction's map holds its last write, and a filter that rejects all of `ys` cannot tell an
interleaving of `xs` and `ys` from `xs`.
-/
import DefraModel.Conc
import DefraModel.Proofs.ListLemmas
namespace Defra.Conc

theorem getCounter_apply (s : State) (c : Call) (a : Nat) :
    getCounter (apply s c) a = getCounter s a + contribution a c := by
  unfold getCounter contribution
  cases c with
  | inc a' d o =>
    cases o with
    | ok => simp only [apply]; split <;> omega
    | _ => exact (Int.add_zero _).symm
  | mergedInc a' d => simp only [apply]; split <;> omega
  | set _ _ o | create _ o | delete _ o => cases o <;> exact (Int.add_zero _).symm
  | mergedCreate => exact (Int.add_zero _).symm

theorem getCounter_foldl (h : List Call) (s : State) (a : Nat) :
    getCounter (h.foldl apply s) a = getCounter s a + expectedCounter h a := by
  induction h generalizing s with
  | nil => simp [expectedCounter]
  | cons c t ih =>
    simp only [List.foldl_cons]
    rw [ih, getCounter_apply]
    simp only [expectedCounter, List.map_cons, List.sum_cons]
    omega

theorem getNote_apply (s : State) (c : Call) (a : Nat) : getNote (apply s c) a = (written a c).or (getNote s a) := by
  unfold getNote written
  cases c with
  | set a' v o =>
    cases o with
    | ok => simp only [apply]; cases a == a' <;> rfl
    | _ => rfl
  | inc _ _ o | create _ o | delete _ o => cases o <;> rfl
  | mergedInc | mergedCreate => rfl

theorem getNote_foldl (h : List Call) (s : State) (a : Nat) :
    getNote (h.foldl apply s) a = (writtenValues h a).getLast?.or (getNote s a) := by
  induction h generalizing s with
  | nil => rfl
  | cons c t ih =>
    have hw : writtenValues (c :: t) a = (written a c).toList ++ writtenValues t a := by
      unfold writtenValues; cases h : written a c <;> simp [h]
    rw [List.foldl_cons, ih, getNote_apply, hw, List.getLast?_append, Option.or_assoc]
    cases written a c <;> rfl

theorem get_put_same (m : List (String × String)) (w : Write) : get (put m w) w.key = some w.value := by
  simp [get, put]

theorem get_put_other (m : List (String × String)) (w : Write) (k : String) (h : w.key ≠ k) :
    get (put m w) k = get m k := by
  unfold get put
  rw [List.find?_cons_of_neg (by simpa using h), ListLemmas.find?_filter_ne m h]

theorem get_foldl_put (ws : List Write) (m : List (String × String)) (k : String) :
    get (ws.foldl put m) k = ((ws.filter (fun w => w.key == k)).getLast?.map (·.value)).or (get m k) := by
  induction ws generalizing m with
  | nil => rfl
  | cons w t ih =>
    rw [List.foldl_cons, ih, List.filter_cons]
    by_cases hk : w.key = k
    · rw [if_pos (beq_iff_eq.mpr hk), List.getLast?_cons, ← hk, get_put_same]
      cases (t.filter fun x => x.key == w.key).getLast? <;> rfl
    · rw [if_neg (by simpa using hk), get_put_other m w k hk]

theorem filter_interleaving_eq (xs ys : List Write) (p : Write → Bool) (hy : ∀ w ∈ ys, p w = false) :
    ∀ zs ∈ interleavings xs ys, zs.filter p = xs.filter p := by
  fun_induction interleavings xs ys with
  | case1 ys =>
    intro zs hz
    cases List.mem_singleton.mp hz
    exact List.filter_eq_nil_iff.mpr fun w hw => by simp [hy w hw]
  | case2 xs hxs => intro zs hz; cases List.mem_singleton.mp hz; rfl
  | case3 x xs y ys ih1 ih2 =>
    intro zs hz
    rcases List.mem_append.mp hz with h | h <;> obtain ⟨r, hr, rfl⟩ := List.mem_map.mp h
    · rw [List.filter_cons, List.filter_cons, ih1 hy r hr]
    · rw [List.filter_cons, hy y List.mem_cons_self, ih2 (fun w hw => hy w (List.mem_cons_of_mem _ hw)) r hr]
      rfl

/-- a key that `ys` never writes ends, after any interleaving, as the writes of `xs` alone leave it -/
theorem get_foldl_interleaving (xs ys : List Write) (m : List (String × String)) (k : String)
    (hy : ∀ y ∈ ys, y.key ≠ k) (zs : List Write) (hz : zs ∈ interleavings xs ys) :
    get (zs.foldl put m) k = get (xs.foldl put m) k := by
  rw [get_foldl_put zs, get_foldl_put xs, filter_interleaving_eq xs ys _ (fun y h => beq_false_of_ne (hy y h)) zs hz]

end Defra.Conc
