/-
`Bytes.lt` is core's lexicographic order (`lt_iff`); keys are compared through `slt`, which survives suffixes and
excludes prefixes.
-/
import DefraModel.Bytes
namespace Defra.Bytes

/-- strict lexicographic order decided at a position where the bytes differ
    (neither string is a prefix of the other) -/
def slt : Bytes → Bytes → Bool
  | a :: as, b :: bs => a < b || (a == b && slt as bs)
  | _, _ => false

@[simp] theorem slt_nil_left (b : Bytes) : slt [] b = false := by cases b <;> rfl
@[simp] theorem slt_nil_right (a : Bytes) : slt a [] = false := by cases a <;> rfl
@[simp] theorem slt_cons (a b : Nat) (as bs : Bytes) :
    slt (a :: as) (b :: bs) = (decide (a < b) || (a == b && slt as bs)) := rfl
@[simp] theorem lt_cons (a b : Nat) (as bs : Bytes) :
    lt (a :: as) (b :: bs) = (decide (a < b) || (a == b && lt as bs)) := rfl
@[simp] theorem lt_nil_nil : lt [] [] = false := rfl
@[simp] theorem lt_nil_cons (b : Nat) (bs : Bytes) : lt [] (b :: bs) = true := rfl
@[simp] theorem lt_cons_nil (a : Nat) (as : Bytes) : lt (a :: as) [] = false := rfl

theorem slt_cons_iff {a b : Nat} {as bs : Bytes} :
    slt (a :: as) (b :: bs) = true ↔ a < b ∨ (a = b ∧ slt as bs = true) := by
  simp only [slt_cons, Bool.or_eq_true, Bool.and_eq_true, decide_eq_true_eq, beq_iff_eq]

theorem lt_cons_iff {a b : Nat} {as bs : Bytes} :
    lt (a :: as) (b :: bs) = true ↔ a < b ∨ (a = b ∧ lt as bs = true) := by
  simp only [lt_cons, Bool.or_eq_true, Bool.and_eq_true, decide_eq_true_eq, beq_iff_eq]

theorem slt_of_head_lt {x y : Nat} (h : x < y) (a b : Bytes) : slt (x :: a) (y :: b) = true :=
  slt_cons_iff.mpr (Or.inl h)

theorem slt_imp_lt : ∀ (a b : Bytes), slt a b = true → lt a b = true
  | [], b, h => by simp at h
  | _ :: _, [], h => by simp at h
  | a :: as, b :: bs, h => by
    rw [slt_cons_iff] at h
    rw [lt_cons_iff]
    exact h.imp_right (And.imp_right (slt_imp_lt as bs))

theorem lt_iff : ∀ (a b : Bytes), lt a b = true ↔ a < b
  | [], [] => by simp
  | [], _ :: _ => by simp
  | _ :: _, [] => by simp
  | a :: as, b :: bs => by simp [List.cons_lt_cons_iff, lt_iff as bs]

theorem not_lt_iff (a b : Bytes) : lt b a = false ↔ a ≤ b := by
  rw [← Bool.not_eq_true, lt_iff]; exact Iff.rfl

theorem lt_irrefl (a : Bytes) : lt a a = false :=
  (not_lt_iff a a).mpr (List.le_refl a)

theorem lt_asymm (a b : Bytes) (h : lt a b = true) : lt b a = false :=
  (not_lt_iff a b).mpr (List.le_of_lt ((lt_iff a b).mp h))

theorem lt_trans (a b c : Bytes) (h1 : lt a b = true) (h2 : lt b c = true) : lt a c = true :=
  (lt_iff a c).mpr (List.lt_trans ((lt_iff a b).mp h1) ((lt_iff b c).mp h2))

theorem lt_total (a b : Bytes) (h : a ≠ b) : lt a b = true ∨ lt b a = true := by
  rw [lt_iff, lt_iff]
  rcases List.le_total a b with h' | h'
  · exact Or.inl ((List.le_iff_lt_or_eq.mp h').resolve_right h)
  · exact Or.inr ((List.le_iff_lt_or_eq.mp h').resolve_right (Ne.symm h))

theorem le_trans {a b c : Bytes} (h1 : lt b a = false) (h2 : lt c b = false) : lt c a = false :=
  (not_lt_iff a c).mpr (List.le_trans ((not_lt_iff a b).mp h1) ((not_lt_iff b c).mp h2))

theorem le_antisymm {a b : Bytes} (h1 : lt b a = false) (h2 : lt a b = false) : a = b :=
  List.le_antisymm ((not_lt_iff a b).mp h1) ((not_lt_iff b a).mp h2)

theorem slt_append : ∀ (a b s t : Bytes), slt a b = true → slt (a ++ s) (b ++ t) = true
  | [], b, _, _, h => by simp at h
  | _ :: _, [], _, _, h => by simp at h
  | a :: as, b :: bs, s, t, h => by
    rw [slt_cons_iff] at h
    rw [List.cons_append, List.cons_append, slt_cons_iff]
    exact h.imp_right (And.imp_right (slt_append as bs s t))

@[simp] theorem slt_prefix : ∀ (p a b : Bytes), slt (p ++ a) (p ++ b) = slt a b
  | [], _, _ => rfl
  | x :: p, a, b => by simp [slt_prefix p a b]

@[simp] theorem lt_prefix : ∀ (p a b : Bytes), lt (p ++ a) (p ++ b) = lt a b
  | [], _, _ => rfl
  | x :: p, a, b => by simp [lt_prefix p a b]

theorem slt_cons_same (x : Nat) (a b : Bytes) : slt (x :: a) (x :: b) = slt a b := by simp

theorem isPrefix_iff : ∀ (p b : Bytes), isPrefix p b = true ↔ ∃ s, b = p ++ s
  | [], b => by simp [isPrefix]
  | _ :: _, [] => by simp [isPrefix]
  | x :: p, y :: b => by
    simp only [isPrefix, Bool.and_eq_true, beq_iff_eq, isPrefix_iff p b, List.cons_append, List.cons.injEq,
      exists_and_left, eq_comm (a := x)]

theorem slt_not_prefix (a b : Bytes) (h : slt a b = true) : isPrefix a b = false ∧ isPrefix b a = false := by
  rw [← Bool.not_eq_true, ← Bool.not_eq_true, isPrefix_iff, isPrefix_iff]
  constructor <;> rintro ⟨s, rfl⟩
  · have := slt_prefix a [] s
    rw [List.append_nil, h, slt_nil_left] at this; cases this
  · have := slt_prefix b s []
    rw [List.append_nil, h, slt_nil_right] at this; cases this

theorem lt_append_self (p s : Bytes) : lt (p ++ s) p = false := (not_lt_iff p (p ++ s)).mpr List.le_append_left

theorem isBytes_nil : IsBytes [] := List.forall_mem_nil _

theorem isBytes_cons_iff {x : Nat} {a : Bytes} : IsBytes (x :: a) ↔ x < 256 ∧ IsBytes a := List.forall_mem_cons

theorem isBytes_cons {x : Nat} {a : Bytes} (hx : x < 256) (ha : IsBytes a) : IsBytes (x :: a) :=
  isBytes_cons_iff.mpr ⟨hx, ha⟩

theorem isBytes_append {a b : Bytes} (ha : IsBytes a) (hb : IsBytes b) : IsBytes (a ++ b) :=
  List.forall_mem_append.mpr ⟨ha, hb⟩

theorem isBytes_compl (a : Bytes) : IsBytes (compl a) := by
  intro x hx
  simp only [compl, List.mem_map] at hx
  obtain ⟨y, _, rfl⟩ := hx
  omega

theorem slt_compl : ∀ (a b : Bytes), IsBytes a → IsBytes b → slt a b = true → slt (compl b) (compl a) = true
  | [], b, _, _, h => by simp at h
  | _ :: _, [], _, _, h => by simp at h
  | a :: as, b :: bs, ha, hb, h => by
    obtain ⟨ha0, ha'⟩ := isBytes_cons_iff.mp ha
    obtain ⟨hb0, hb'⟩ := isBytes_cons_iff.mp hb
    rw [slt_cons_iff] at h
    show slt ((255 - b) :: compl bs) ((255 - a) :: compl as) = true
    rw [slt_cons_iff]
    exact h.imp (fun h => by omega) (fun ⟨e, h2⟩ => ⟨by omega, slt_compl as bs ha' hb' h2⟩)

theorem compl_compl : ∀ (a : Bytes), IsBytes a → compl (compl a) = a
  | [], _ => rfl
  | x :: a, h => by
    obtain ⟨hx, ha⟩ := isBytes_cons_iff.mp h
    show (255 - (255 - x)) :: compl (compl a) = x :: a
    rw [compl_compl a ha, Nat.sub_sub_self (by omega)]

/-- strict monotonicity into `slt` in both directions plus trichotomy up to equal codes gives the iff with `lt` -/
theorem lt_iff_of_slt {x y : Bytes} {p q : Prop} (hp : p → slt x y = true) (hq : q → slt y x = true)
    (tri : p ∨ x = y ∨ q) : p ↔ lt x y = true := by
  refine ⟨fun h => slt_imp_lt _ _ (hp h), fun h => ?_⟩
  rcases tri with t | t | t
  · exact t
  · rw [t, lt_irrefl] at h; cases h
  · rw [lt_asymm _ _ (slt_imp_lt _ _ (hq t))] at h; cases h

theorem iff_of_mono {α : Type} (r : α → α → Prop) (enc : α → Bytes)
    (tri : ∀ a b, r a b ∨ a = b ∨ r b a)
    (mono : ∀ a b, r a b → slt (enc a) (enc b) = true)
    (a b : α) :
    r a b ↔ lt (enc a) (enc b) = true :=
  lt_iff_of_slt (mono a b) (mono b a) ((tri a b).imp_right (Or.imp_left (congrArg enc)))

end Defra.Bytes
