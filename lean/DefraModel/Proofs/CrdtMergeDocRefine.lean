import DefraModel.Proofs.CrdtMergeDoc
import DefraModel.Proofs.ListLemmas

/-!
`mergeDoc` at the composite level: on the heads and the delete marker of a document (`SameComp`), `processBlock` on a
composite is one `docStep` and the field blocks it links do nothing, so `fold_docStep` over the collected composites
speaks about `mergeDoc` (`mergeDoc_comp`).
-/
namespace Defra.Crdt

theorem assocGet_assocSet {β : Type} (l : List (String × β)) (k k' : String) (v : β) :
    assocGet (assocSet l k v) k' = if k' = k then some v else assocGet l k' := by
  unfold assocSet assocGet
  by_cases ha : l.any (·.1 == k) = true
  · rw [if_pos ha, ListLemmas.find?_replace (·.1 == k') (·.1 == k) (fun _ => (k, v)) (fun x hx => by rw [beq_iff_eq.mp hx]) l,
      Option.map_map]
    by_cases hkk : k' = k
    · subst hkk
      obtain ⟨x, hx⟩ := Option.isSome_iff_exists.mp (List.find?_isSome.mpr (List.any_eq_true.mp ha))
      rw [if_pos rfl, hx, Option.map_some, Function.comp, if_pos (List.find?_some hx)]
    · rw [if_neg hkk]
      cases hx : l.find? (·.1 == k') with
      | none => rfl
      | some x =>
        have hxk := List.find?_some hx
        have : ¬ (x.1 == k) = true := fun h => hkk ((beq_iff_eq.mp hxk).symm.trans (beq_iff_eq.mp h))
        rw [Option.map_some, Option.map_some, Function.comp, if_neg this]
  · rw [if_neg ha, List.find?_append, List.find?_singleton]
    by_cases hkk : k' = k
    · subst hkk
      rw [if_pos rfl, if_pos (beq_iff_eq.mpr rfl), List.find?_eq_none.mpr fun x hx h => ha (List.any_eq_true.mpr ⟨x, hx, h⟩)]
      rfl
    · rw [if_neg hkk, if_neg (fun h => hkk (beq_iff_eq.mp h).symm), Option.or_none]

theorem doc_setDoc (r : Replica) (d d' : String) (s : DocState) :
    (r.setDoc d s).doc d' = if d' = d then s else r.doc d' := by
  unfold Replica.doc Replica.setDoc
  simp only [assocGet_assocSet]
  split <;> rfl

theorem applyDelta_field_marker (s : Vals) (b : Block) (f : String) (hk : b.kind = .field f) :
    (applyDelta s b).marker = s.marker := by
  unfold applyDelta
  rw [hk]
  cases b.delta <;> rfl

theorem applyDelta_comp_marker (s : Vals) (b : Block) (hk : b.kind = .comp) :
    (applyDelta s b).marker = markerOf b s.marker := by
  unfold applyDelta markerOf
  rw [hk]
  cases b.delta <;> rfl

def FieldLinks (bs : Blocks) (b : Block) : Prop :=
  ∀ l ∈ b.links, ∀ lb, bs.get? l = some lb → (∃ f, lb.kind = .field f) ∧ lb.links = []

theorem updateHeads_known (known : Nat → Bool) (heads : List Nat) (b : Block)
    (hk : ∀ l ∈ b.parents ++ b.links, known l = true) :
    updateHeads known heads b = updateHeads (fun _ => true) heads b := by
  unfold updateHeads
  exact List.foldl_rel rfl fun l hl h h' e => by subst e; simp only [hk l hl]

/-- what `wfCheck` establishes (`wfCheck_sound`) -/
structure StoreWF2 (bs : Blocks) : Prop where
  base : StoreWF bs
  sameDoc : ∀ y b, bs.get? y = some b → b.kind = .comp → ∀ p ∈ b.parents, ∀ pb, bs.get? p = some pb → pb.doc = b.doc
  fieldLinks : ∀ y b, bs.get? y = some b → b.kind = .comp → FieldLinks bs b
  linksStored : ∀ y b, bs.get? y = some b → b.kind = .comp → ∀ l ∈ b.links, (bs.get? l).isSome = true

theorem path_doc (bs : Blocks) (swf : StoreWF2 bs) {y t n : Nat} (h : Path bs y t n) :
    ∀ yb, bs.get? y = some yb → yb.kind = .comp → ∀ tb, bs.get? t = some tb → tb.kind = .comp ∧ tb.doc = yb.doc := by
  intro yb hy hk
  refine path_inherit swf.base.wf (fun b => b.kind = .comp ∧ b.doc = yb.doc) (fun y b hg hb p hp pb hpb => ?_) h yb hy
    ⟨hk, rfl⟩
  obtain ⟨pb', h1, hpk⟩ := swf.base.compParents y b hg hb.1 p hp
  rw [hpb] at h1; cases h1
  exact ⟨hpk, (swf.sameDoc y b hg hb.1 p hp pb hpb).trans hb.2⟩

theorem doc_processBlock_field (cx : Ctx) (n : Nat) (r : Replica) (e : Block) (f : String)
    (hk : e.kind = .field f) (hl : e.links = []) (d : String) :
    (processBlock cx (n + 1) r e).doc d =
      if d = e.doc then docStep cx.blocks cx.known (r.doc d) e else r.doc d := by
  rw [processBlock]
  simp only [hk, hl, List.foldl_nil]
  rw [doc_setDoc]
  by_cases hd : d = e.doc
  · subst hd
    simp only [if_true, docStep, hk]
  · simp only [hd, if_false]

def childBlocks (bs : Blocks) (b : Block) : List Block := b.links.filterMap bs.get?

theorem mem_childBlocks {bs : Blocks} {b fb : Block} :
    fb ∈ childBlocks bs b ↔ ∃ l ∈ b.links, bs.get? l = some fb := by
  unfold childBlocks
  rw [List.mem_filterMap]

/-- one `docStep` for the composite on its own document, then one per stored link on the link's document -/
theorem doc_processBlock_comp (cx : Ctx) (n : Nat) (r : Replica) (b : Block) (hk : b.kind = .comp)
    (hl : FieldLinks cx.blocks b) (d : String) :
    (processBlock cx (n + 2) r b).doc d =
      (childBlocks cx.blocks b).foldl (fun s ch => if d = ch.doc then docStep cx.blocks cx.known s ch else s)
        (if d = b.doc then docStep cx.blocks cx.known (r.doc d) b else r.doc d) := by
  rw [processBlock]
  simp only [hk]
  rw [childBlocks, List.foldl_filterMap]
  refine List.foldl_rel (r := fun (r' : Replica) s => r'.doc d = s) ?_ fun l hl' r' s e => ?_
  · rw [doc_setDoc]
    by_cases hd : d = b.doc
    · subst hd
      rw [if_pos rfl, if_pos rfl, docStep, hk]
    · rw [if_neg hd, if_neg hd]
  · subst e
    cases hg : cx.blocks.get? l with
    | none => rfl
    | some child =>
      obtain ⟨⟨f, hf⟩, hnl⟩ := hl l hl' child hg
      exact doc_processBlock_field cx n r' child f hf hnl d

/-- all the composite level sees of a document -/
def SameComp (s s' : DocState) : Prop := s.heads = s'.heads ∧ s.vals.marker = s'.vals.marker

theorem SameComp.trans {a b c : DocState} (h : SameComp a b) (h' : SameComp b c) : SameComp a c :=
  ⟨h.1.trans h'.1, h.2.trans h'.2⟩

theorem sameComp_docStep_field (bs : Blocks) (known : Nat → Bool) (s : DocState) (e : Block) (f : String)
    (hk : e.kind = .field f) : SameComp (docStep bs known s e) s := by
  unfold docStep
  split
  · exact ⟨rfl, rfl⟩
  · rw [hk]; exact ⟨rfl, applyDelta_field_marker _ e f hk⟩

theorem sameComp_docStep_comp (bs : Blocks) (known : Nat → Bool) (s s' : DocState) (e : Block) (hk : e.kind = .comp)
    (hkn : ∀ l ∈ e.parents ++ e.links, known l = true) (h : SameComp s s') :
    SameComp (docStep bs known s e) (docStep bs (fun _ => true) s' e) := by
  unfold docStep
  rw [hk, updateHeads_known known _ e hkn]
  simp only [headsOf, h.1]
  by_cases hm : isMerged bs s'.heads e.id e.height = true
  · simp only [hm, if_true]; exact h
  · simp only [hm, Bool.false_eq_true, if_false, setHeadsOf]
    exact ⟨rfl, by simp only [applyDelta_comp_marker _ e hk, h.2]⟩

theorem sameComp_processBlock (cx : Ctx) (n : Nat) (r : Replica) (b : Block) (hk : b.kind = .comp)
    (hl : FieldLinks cx.blocks b) (d : String) :
    SameComp ((processBlock cx (n + 2) r b).doc d)
      (if d = b.doc then docStep cx.blocks cx.known (r.doc d) b else r.doc d) := by
  rw [doc_processBlock_comp cx n r b hk hl d]
  refine List.foldlRecOn (motive := fun s => SameComp s _) _ _ ⟨rfl, rfl⟩ fun s h ch hch => ?_
  obtain ⟨l, hl', hg⟩ := mem_childBlocks.mp hch
  obtain ⟨⟨f, hf⟩, _⟩ := hl l hl' ch hg
  by_cases hd : d = ch.doc
  · rw [if_pos hd]
    exact (sameComp_docStep_field _ _ _ ch f hf).trans h
  · rw [if_neg hd]
    exact h

theorem applyDelta_foldl_marker (L : List Block) (hL : ∀ b ∈ L, b.kind = .comp) (v : Vals) :
    (L.foldl applyDelta v).marker = L.foldl (fun m b => markerOf b m) v.marker :=
  List.foldl_rel (r := fun (v : Vals) (m : Option Bool) => v.marker = m) rfl fun b hb v m h => by
    rw [applyDelta_comp_marker v b (hL b hb), h]

/-- **One merge, end to end, composite level**: what `merge_applies_exactly_the_unmerged_ancestors_once` (Props/C02)
    states, with the hypotheses as propositions and `news` the sorted walk `L`. -/
theorem mergeDoc_comp (cx : Ctx) (swf : StoreWF2 cx.blocks)
    (hknown : ∀ l, (cx.blocks.get? l).isSome = true → cx.known l = true)
    (r : Replica) (c : Block) (hc : cx.blocks.get? c.id = some c) (hck : c.kind = .comp)
    (hi : HInv cx.blocks (r.doc c.doc).heads) :
    let L := sortByHeight (loadComposites cx.blocks (r.doc c.doc).heads (cx.blocks.length + 1) c.id ([], [])).1
    WalkFacts cx.blocks (r.doc c.doc).heads c.id L ∧
    ((mergeDoc cx r c).doc c.doc).vals.marker = L.foldl (fun m b => markerOf b m) (r.doc c.doc).vals.marker ∧
    (∀ t, Reach cx.blocks ((mergeDoc cx r c).doc c.doc).heads t ↔
      (Reach cx.blocks (r.doc c.doc).heads t ∨ (Anc cx.blocks c.id t ∧ ∃ b, cx.blocks.get? t = some b))) ∧
    HInv cx.blocks ((mergeDoc cx r c).doc c.doc).heads := by
  intro L
  have wf := swf.base.wf
  have w : WalkFacts cx.blocks (r.doc c.doc).heads c.id L := walk_facts _ swf.base _ c.id ⟨c, hc, hck⟩
  have hmd : mergeDoc cx r c = L.foldl (fun r b => processBlock cx 4 r b) r := mergeDoc_eq cx r c
  clear_value L
  rw [hmd]
  have hLst : ∀ b ∈ L, cx.blocks.get? b.id = some b := fun b hb => ((w.mem b).mp hb).1
  -- 1. on heads and marker, `mergeDoc` is the fold of `docStep` over the collected composites
  have hsim : SameComp ((L.foldl (fun r b => processBlock cx 4 r b) r).doc c.doc)
      (L.foldl (docStep cx.blocks (fun _ => true)) (r.doc c.doc)) := by
    refine List.foldl_rel (r := fun (r' : Replica) (s : DocState) => SameComp (r'.doc c.doc) s) ⟨rfl, rfl⟩
      fun b hb r' s h => ?_
    obtain ⟨h1, ⟨n, hn⟩, _⟩ := (w.mem b).mp hb
    have hbk := w.comp b hb
    have hs := sameComp_processBlock cx 2 r' b hbk (swf.fieldLinks _ _ h1 hbk) c.doc
    rw [if_pos (path_doc cx.blocks swf hn c hc hck b h1).2.symm] at hs
    have := sameComp_docStep_comp cx.blocks cx.known _ s b hbk (fun l hl => hknown l ?_) h
    · exact hs.trans this
    · rcases List.mem_append.mp hl with hl | hl
      · obtain ⟨pb, hpb, _⟩ := wf _ _ h1 l hl
        rw [hpb]; rfl
      · exact swf.linksStored _ _ h1 hbk l hl
  -- 2. sorted by height, the composites find their parents merged or earlier in `L`
  have hready : ParentsFirst (fun k t => Reach cx.blocks (headsOf (r.doc c.doc) k) t) [] L := by
    rw [← List.flatMap_singleton' L]
    refine parentsFirst_flatMap _ (fun _ => []) L [] w.sorted fun b hb e he p hp => ?_
    obtain rfl := List.mem_singleton.mp he
    rcases w.parents_lower wf hb hp with h | ⟨a, ha, hlt, rfl⟩
    · left; rw [w.comp e hb]; exact h
    · exact Or.inr (Or.inr ⟨a, ha, hlt, List.mem_cons_self⟩)
  -- 3. the fold theorem over `L`, with no further invariant
  obtain ⟨-, r2, r3, r4⟩ := fold_docStep cx.blocks wf (r.doc c.doc) (fun _ => True) (fun _ _ _ _ => trivial)
    L [] (r.doc c.doc) trivial (fun e he => elemOK_comp swf.base (hLst e he) (w.comp e he))
    (fun e he => by rw [w.comp e he]; exact hi) (by intro k t; simp) rfl hready
  simp only [List.nil_append] at r3 r4
  -- 4. every block of `L` is applied: none was merged before, identifiers are distinct
  have happ : appliedSeq cx.blocks (r.doc c.doc) L = L := by
    refine foldl_addFirst_all _ _ L [] (by simpa using w.nodup) fun b hb => ?_
    refine (unmergedAt_iff wf _ (hLst b hb)).mpr ?_
    rw [w.comp b hb]
    exact ((w.mem b).mp hb).2.2
  refine ⟨w, ?_, fun t => ?_, ?_⟩
  · rw [hsim.2, r4, happ, applyDelta_foldl_marker L w.comp]
  · rw [hsim.1]
    refine (r3 .comp t).trans ⟨?_, ?_⟩
    · rintro (h | ⟨b, hb, rfl, _⟩)
      · exact Or.inl h
      · exact Or.inr ⟨((w.mem b).mp hb).2.1, b, hLst b hb⟩
    · rintro (h | ⟨ha, b, hst⟩)
      · exact Or.inl h
      · obtain rfl := Blocks.get?_id hst
        exact (Classical.em _).imp_right fun hn =>
          have hb := (w.mem b).mpr ⟨hst, ha, hn⟩
          ⟨b, hb, rfl, w.comp b hb⟩
  · rw [hsim.1]; exact r2 .comp hi

end Defra.Crdt
