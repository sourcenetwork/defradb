import DefraModel.Relation
import DefraModel.Proofs.Lookup

/-! One invariant (`Sound`: identifiers unique, one-to-one links held once) through a normal form of `step`; the
    inverted join in closed form. -/
namespace Defra.Relation

/-- identifiers are unique -/
def IdsUnique (db : DB) : Prop := ∀ a ∈ db, ∀ b ∈ db, a.id = b.id → a = b

theorem mem_live {db : DB} {col : Nat} {d : Doc} : d ∈ live db col ↔ d ∈ db ∧ d.col = col ∧ d.deleted = false := by
  simp [live, List.mem_filter]

/-- the document with identifier `id` rewritten by `f` -/
def upd (db : DB) (id : Nat) (f : Doc → Doc) : DB := db.map (fun e => if e.id == id then f e else e)

/-- common to the rewrites `step` makes: identifier and collection stay, no deleted document is revived -/
def Keeps (f : Doc → Doc) : Prop :=
  ∀ e, (f e).id = e.id ∧ (f e).col = e.col ∧ ((f e).deleted = false → e.deleted = false)

theorem keeps_setFk (fk : Option Nat) : Keeps (fun e => { e with fk := fk }) := fun _ => ⟨rfl, rfl, fun h => h⟩

theorem keeps_setX (x : Option Int) : Keeps (fun e => { e with x := x }) := fun _ => ⟨rfl, rfl, fun h => h⟩

theorem keeps_delete : Keeps (fun e => { e with deleted := true }) := fun _ => ⟨rfl, rfl, fun h => nomatch h⟩

theorem mem_upd {db : DB} {id : Nat} {f : Doc → Doc} {d' : Doc} :
    d' ∈ upd db id f ↔ ∃ d ∈ db, d' = if d.id == id then f d else d := by
  simp only [upd, List.mem_map, eq_comm]

theorem find_spec {db : DB} {id : Nat} {d : Doc} (h : db.find? (fun d => d.id == id && !d.deleted) = some d) :
    d ∈ db ∧ d.id = id ∧ d.deleted = false := by
  have h1 := List.find?_some h
  simp only [Bool.and_eq_true, beq_iff_eq, Bool.not_eq_true'] at h1
  exact ⟨List.mem_of_find?_eq_some h, h1.1, h1.2⟩

theorem not_taken {db : DB} {col self k : Nat} (h : linkTaken db col self k = false) :
    ∀ a ∈ live db col, a.fk = some k → a.id = self := by
  intro a ha hk
  have := List.any_eq_false.mp h a ha
  simp only [Bool.and_eq_true, bne_iff_ne, ne_eq, beq_iff_eq, not_and] at this
  exact Decidable.by_contra fun hs => this hs hk

/-- no other live document of `col` holds the link `k` (asked of one-to-one collections only) -/
def Free (o : Nat → Bool) (db : DB) (col self k : Nat) : Prop :=
  o col = true → ∀ a ∈ live db col, a.fk = some k → a.id = self

/-- A step leaves the database unchanged; or appends a `d` with a fresh identifier whose link is `Free`; or rewrites a
    document `d` by an `f` that `Keeps`, the link of `f d` being that of `d` or `Free`. `o`: the one-to-one
    collections. -/
theorem step_cases (o : Nat → Bool) (db : DB) (op : Op) :
    (step o db op).1 = db ∨
    (∃ d, (step o db op).1 = db ++ [d] ∧ db.any (fun e => e.id == d.id) = false ∧
      ∀ k, d.fk = some k → Free o db d.col d.id k) ∨
    (∃ d f, (step o db op).1 = upd db d.id f ∧ d ∈ db ∧ Keeps f ∧
      ∀ k, (f d).fk = some k → d.fk = some k ∨ Free o db d.col d.id k) := by
  have free : ∀ {col self k}, ¬ (o col && linkTaken db col self k) = true → Free o db col self k :=
    fun h ho => not_taken (by simpa [ho] using h)
  cases op with
  | create d =>
    rw [step]
    cases hany : db.any (fun e => e.id == d.id) with
    | true => exact .inl rfl
    | false =>
      rw [if_neg Bool.false_ne_true]
      cases hk : d.fk with
      | none => exact .inr (.inl ⟨d, rfl, hany, fun k' hk' => by rw [hk] at hk'; cases hk'⟩)
      | some k =>
        dsimp only
        by_cases hnt : (o d.col && linkTaken db d.col d.id k) = true
        · rw [if_pos hnt]; exact .inl rfl
        · rw [if_neg hnt]
          exact .inr (.inl ⟨d, rfl, hany, fun k' hk' => by rw [hk] at hk'; cases hk'; exact free hnt⟩)
  | setFk id fk =>
    rw [step]
    cases hfind : db.find? (fun d => d.id == id && !d.deleted) with
    | none => exact .inl rfl
    | some d =>
      obtain ⟨hd, rfl, -⟩ := find_spec hfind
      cases fk with
      | none => exact .inr (.inr ⟨d, _, rfl, hd, keeps_setFk none, fun k' hk' => by cases hk'⟩)
      | some k =>
        dsimp only
        by_cases hnt : (o d.col && linkTaken db d.col d.id k) = true
        · rw [if_pos hnt]; exact .inl rfl
        · rw [if_neg hnt]
          exact .inr (.inr ⟨d, _, rfl, hd, keeps_setFk (some k), fun k' hk' => by cases hk'; exact .inr (free hnt)⟩)
  | setX id x =>
    rw [step]
    cases hfind : db.find? (fun d => d.id == id && !d.deleted) with
    | none => exact .inl rfl
    | some d =>
      obtain ⟨hd, rfl, -⟩ := find_spec hfind
      exact .inr (.inr ⟨d, _, rfl, hd, keeps_setX x, fun k' hk' => .inl hk'⟩)
  | delete id =>
    rw [step]
    cases hfind : db.find? (fun d => d.id == id && !d.deleted) with
    | none => exact .inl rfl
    | some d =>
      obtain ⟨hd, rfl, -⟩ := find_spec hfind
      exact .inr (.inr ⟨d, _, rfl, hd, keeps_delete, fun k' hk' => .inl hk'⟩)

/-- two documents that cannot both be in a database: the same identifier, or, in a one-to-one collection, the same link
    held by both while live -/
def Conflict (o : Nat → Bool) (a b : Doc) : Prop :=
  a.id = b.id ∨ (o a.col = true ∧ a.col = b.col ∧ a.deleted = false ∧ b.deleted = false ∧
    ∃ k, a.fk = some k ∧ b.fk = some k)

theorem Conflict.symm {o : Nat → Bool} {a b : Doc} : Conflict o a b → Conflict o b a
  | .inl h => .inl h.symm
  | .inr ⟨ho, hc, ha, hb, k, hka, hkb⟩ => .inr ⟨hc ▸ ho, hc.symm, hb, ha, k, hkb, hka⟩

/-- no two different documents of the database conflict: identifiers are unique and no one-to-one link is held twice -/
def Sound (o : Nat → Bool) (db : DB) : Prop := ∀ a ∈ db, ∀ b ∈ db, Conflict o a b → a = b

theorem Sound.idsUnique {o : Nat → Bool} {db : DB} (h : Sound o db) : IdsUnique db :=
  fun a ha b hb e => h a ha b hb (.inl e)

theorem Sound.unique {o : Nat → Bool} {db : DB} (h : Sound o db) {col : Nat} (hoo : o col = true) :
    Unique db col := by
  intro a ha b hb k hka hkb
  obtain ⟨ha, hca, hla⟩ := mem_live.mp ha
  obtain ⟨hb, hcb, hlb⟩ := mem_live.mp hb
  rw [h a ha b hb (.inr ⟨hca ▸ hoo, hca.trans hcb.symm, hla, hlb, k, hka, hkb⟩)]

theorem sound_append {o : Nat → Bool} {db : DB} (h : Sound o db) (d : Doc)
    (hn : db.any (fun e => e.id == d.id) = false) (hfree : ∀ k, d.fk = some k → Free o db d.col d.id k) :
    Sound o (db ++ [d]) := by
  have hne : ∀ e ∈ db, e.id ≠ d.id := by simpa using hn
  have new : ∀ a ∈ db, ¬ Conflict o a d := by
    rintro a ha (hi | ⟨ho, hc, hla, -, k, hka, hkd⟩)
    · exact hne a ha hi
    · exact hne a ha (hfree k hkd (hc ▸ ho) a (mem_live.mpr ⟨ha, hc, hla⟩) hka)
  intro a ha b hb hab
  rcases List.mem_append.mp ha with ha' | ha' <;> rcases List.mem_append.mp hb with hb' | hb'
  · exact h a ha' b hb' hab
  · rw [List.mem_singleton.mp hb'] at hab; exact absurd hab (new a ha')
  · rw [List.mem_singleton.mp ha'] at hab; exact absurd hab.symm (new b hb')
  · rw [List.mem_singleton.mp ha', List.mem_singleton.mp hb']

theorem sound_upd {o : Nat → Bool} {db : DB} {d : Doc} {f : Doc → Doc} (h : Sound o db) (hd : d ∈ db)
    (hf : Keeps f) (hfk : ∀ k, (f d).fk = some k → d.fk = some k ∨ Free o db d.col d.id k) : Sound o (upd db d.id f) := by
  -- a conflict after the rewrite was a conflict before it; `one`: the rewritten document against an untouched one
  have one : ∀ b ∈ db, b.id ≠ d.id → Conflict o (f d) b → Conflict o d b := by
    rintro b hb hne (hi | ⟨ho, hc, hl, hlb, k, hk, hkb⟩)
    · exact .inl ((hf d).1 ▸ hi)
    · rw [(hf d).2.1] at ho hc
      rcases hfk k hk with hk | hfree
      · exact .inr ⟨ho, hc, (hf d).2.2 hl, hlb, k, hk, hkb⟩
      · exact .inl (hfree ho b (mem_live.mpr ⟨hb, hc.symm, hlb⟩) hkb).symm
  intro a' ha' b' hb' hab
  obtain ⟨a, ha, rfl⟩ := mem_upd.mp ha'
  obtain ⟨b, hb, rfl⟩ := mem_upd.mp hb'
  suffices Conflict o a b by rw [h a ha b hb this]
  by_cases hi : a.id = b.id
  · exact .inl hi
  by_cases hda : a.id = d.id <;> by_cases hdb : b.id = d.id
  · exact absurd (hda.trans hdb.symm) hi
  · obtain rfl := h a ha d hd (.inl hda)
    rw [if_pos (beq_self_eq_true _), if_neg (by simpa using hdb)] at hab
    exact one b hb hdb hab
  · obtain rfl := h b hb d hd (.inl hdb)
    rw [if_neg (by simpa using hda), if_pos (beq_self_eq_true _)] at hab
    exact (one a ha hda hab.symm).symm
  · rwa [if_neg (by simpa using hda), if_neg (by simpa using hdb)] at hab

theorem step_sound (o : Nat → Bool) {db : DB} (h : Sound o db) (op : Op) : Sound o (step o db op).1 := by
  rcases step_cases o db op with e | ⟨d, e, hnew, hfree⟩ | ⟨d, f, e, hd, hf, hfk⟩ <;> rw [e]
  · exact h
  · exact sound_append h d hnew hfree
  · exact sound_upd h hd hf hfk

theorem run_sound (o : Nat → Bool) (ops : List Op) : Sound o (run o ops) :=
  List.foldlRecOn ops _ (fun _ h => nomatch h) fun _ h op _ => step_sound o h op

theorem mem_children {db : DB} {r : Rel} {p c : Doc} :
    c ∈ children db r p ↔ c ∈ live db r.child ∧ c.fk = some p.id := by
  simp [children, List.mem_filter]

theorem find_live_iff {db : DB} (hu : IdsUnique db) {col k : Nat} {p : Doc} :
    (live db col).find? (fun q => q.id == k) = some p ↔ p ∈ live db col ∧ p.id = k :=
  ListLemmas.find?_key_iff (·.id) fun x hx y hy => hu x (mem_live.mp hx).1 y (mem_live.mp hy).1

theorem parentOf_eq_some_iff {db : DB} (hu : IdsUnique db) {r : Rel} {c p : Doc} :
    parentOf db r c = some p ↔ p ∈ live db r.parent ∧ c.fk = some p.id := by
  unfold parentOf
  cases c.fk with
  | none => simp
  | some k => simp only [find_live_iff hu, Option.some.injEq, eq_comm]

theorem mem_parentsWith {db : DB} {r : Rel} {q : Doc → Bool} {p : Doc} :
    p ∈ parentsWith db r q ↔ p ∈ live db r.parent ∧ ∃ c ∈ live db r.child, c.fk = some p.id ∧ q c = true := by
  simp only [parentsWith, List.mem_filter, List.any_eq_true, mem_children, and_assoc]

theorem mem_childrenWith {db : DB} {r : Rel} {q : Doc → Bool} {c : Doc} :
    c ∈ childrenWith db r q ↔ c ∈ live db r.child ∧ ∃ p, parentOf db r c = some p ∧ q p = true := by
  simp only [childrenWith, List.mem_filter]
  cases parentOf db r c <;> simp

/-- the live parent with identifier `k`, with its children -/
def fetchParent (db : DB) (r : Rel) (k : Nat) : Option (Doc × List Doc) :=
  ((live db r.parent).find? (fun p => p.id == k)).map (fun p => (p, children db r p))

theorem fetchParent_id {db : DB} {r : Rel} {k : Nat} {pk : Doc × List Doc} (h : fetchParent db r k = some pk) :
    pk.1.id = k := by
  obtain ⟨p, hp, rfl⟩ := Option.map_eq_some_iff.mp h
  simpa using List.find?_some hp

theorem fetchParent_eq_some {db : DB} (hu : IdsUnique db) {r : Rel} {k : Nat} {p : Doc} {kids : List Doc} :
    fetchParent db r k = some (p, kids) ↔ p ∈ live db r.parent ∧ p.id = k ∧ kids = children db r p := by
  simp only [fetchParent, Option.map_eq_some_iff, find_live_iff hu, Prod.mk.injEq]
  constructor
  · rintro ⟨_, ⟨hp, hk⟩, rfl, rfl⟩; exact ⟨hp, hk, rfl⟩
  · rintro ⟨hp, hk, rfl⟩; exact ⟨p, ⟨hp, hk⟩, rfl, rfl⟩

open IndexMulti (dedupSeen) in
/-- the foreign keys of the visited children, each the first time it is met (`encounteredDocIDs`), looked up among the
    live parents -/
theorem invertedFromChildren_eq (db : DB) (r : Rel) (visit : List Doc) (seen : List Nat) :
    invertedFromChildren db r visit seen =
      (dedupSeen seen (visit.filterMap (·.fk))).filterMap (fetchParent db r) := by
  induction visit generalizing seen with
  | nil => rfl
  | cons c rest ih =>
    unfold invertedFromChildren
    cases hk : c.fk with
    | none => simp only [List.filterMap_cons, hk]; exact ih seen
    | some k =>
      simp only [List.filterMap_cons, hk, dedupSeen, List.contains_iff_mem]
      split
      · exact ih seen
      · simp only [List.filterMap_cons, fetchParent]
        cases (live db r.parent).find? (fun p => p.id == k) with
        | none => exact ih _
        | some p => simp only [Option.map_some]; rw [ih]

theorem mem_invertedFromChildren {db : DB} (hu : IdsUnique db) {r : Rel} {visit : List Doc} {seen : List Nat}
    {p : Doc} {kids : List Doc} :
    (p, kids) ∈ invertedFromChildren db r visit seen ↔
      p ∈ live db r.parent ∧ kids = children db r p ∧ p.id ∉ seen ∧ ∃ c ∈ visit, c.fk = some p.id := by
  simp only [invertedFromChildren_eq, List.mem_filterMap, IndexMulti.mem_dedupSeen, fetchParent_eq_some hu]
  constructor
  · rintro ⟨_, ⟨hv, hs⟩, hp, rfl, rfl⟩; exact ⟨hp, rfl, hs, hv⟩
  · rintro ⟨hp, rfl, hs, hv⟩; exact ⟨_, ⟨hv, hs⟩, hp, rfl, rfl⟩

end Defra.Relation
