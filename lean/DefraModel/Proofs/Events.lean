/-
One step of the bus (`Events.lean`), for every command and state: what it delivers to a subscriber (`step_received`)
and what it does to the subscriptions (`step_wants`); then FIFO delivery while a subscriber stays subscribed, and
whole histories with no hypothesis on what the subscriber does: what it receives is an in-order sub-sequence of what
was published; a closed bus stays as it is; without a subscription nothing arrives.
-/
import DefraModel.Events
namespace Defra.Events

/-- the bus is open and `wants id` answers exactly as a subscription to `names` would -/
def SubscribedTo (b : Bus) (id : Nat) (names : List Name) : Prop :=
  b.closed = false ∧ ∀ n, b.wants id n = (names.contains n || names.contains wildcard)

def pubs (cmds : List Cmd) : List (Name × Nat) :=
  cmds.filterMap (fun c => match c with
    | .publish n p => some (n, p)
    | _ => none)

theorem pubs_cons (c : Cmd) (rest : List Cmd) : pubs (c :: rest) = pubs [c] ++ pubs rest :=
  List.filterMap_append (l := [c]) (l' := rest)

theorem matching_eq_filter (names : List Name) (cmds : List Cmd) :
    matching names cmds = (pubs cmds).filter (fun x => names.contains x.1 || names.contains wildcard) := by
  unfold matching pubs
  rw [List.filter_filterMap]
  congr 1; funext c
  cases c <;> simp [Option.filter]

theorem run_nil (b : Bus) : run b [] = b := rfl

theorem run_cons (b : Bus) (c : Cmd) (cmds : List Cmd) : run b (c :: cmds) = run (step b c) cmds := rfl

theorem run_append (b : Bus) (xs ys : List Cmd) : run b (xs ++ ys) = run (run b xs) ys := List.foldl_append

theorem step_closed (b : Bus) (c : Cmd) (h : b.closed = true) : step b c = b := by
  cases c <;> simp [step, h]

theorem step_received (b : Bus) (c : Cmd) (id : Nat) :
    (step b c).received id = b.received id ++ (pubs [c]).filter (fun x => !b.closed && b.wants id x.1) := by
  cases hc : b.closed
  · cases c with
    | publish n p => cases hw : b.wants id n <;> simp [step, pubs, hc, hw]
    | _ => simp only [step, hc, Bool.false_eq_true, if_false]; exact (List.append_nil _).symm
  · simp [step_closed b c hc]

/-- removing `j`'s subscription takes away what `j` wanted and nothing else -/
theorem any_filter_ne (subs : List (Nat × List Name)) (j id : Nat) (q : Nat × List Name → Bool) :
    (subs.filter (fun s => s.1 != j)).any (fun s => s.1 == id && q s) =
      (j != id && subs.any (fun s => s.1 == id && q s)) := by
  rw [List.any_filter]
  by_cases hj : j = id
  · subst hj
    rw [bne_self_eq_false, Bool.false_and, List.any_eq_false]
    intro s _
    cases hs : s.1 == j <;> simp [bne, hs]
  · rw [bne_iff_ne.mpr hj, Bool.true_and]
    refine List.any_congr rfl fun s => ?_
    by_cases hs : s.1 = id
    · simp [hs, Ne.symm hj]
    · simp [hs]

theorem step_wants (b : Bus) (h : b.closed = false) (c : Cmd) (id : Nat) (n : Name) :
    (step b c).wants id n = match c with
      | .close => false
      | .subscribe j ns => if j = id then ns.contains n || ns.contains wildcard else b.wants id n
      | .unsubscribe j => if j = id then false else b.wants id n
      | .publish _ _ => b.wants id n := by
  cases c with
  | close | publish => simp only [step, h, Bool.false_eq_true, if_false]; rfl
  | unsubscribe j | subscribe j ns =>
    simp only [step, h, Bus.wants, Bool.false_eq_true, if_false, List.any_append, any_filter_ne]
    by_cases hj : j = id
    · simp [hj]
    · simp [hj, bne_iff_ne.mpr hj, beq_eq_false_iff_ne.mpr hj]

theorem step_keeps (b : Bus) (c : Cmd) (id : Nat) (names : List Name)
    (h : SubscribedTo b id names) (hk : c.keeps id = true) : SubscribedTo (step b c) id names := by
  cases c with
  | close => cases hk
  | publish n p => exact ⟨by simp [step, h.1], fun m => by rw [step_wants b h.1, h.2]⟩
  | subscribe j ns | unsubscribe j =>
    have hj : j ≠ id := by simpa [Cmd.keeps] using hk
    exact ⟨by simp [step, h.1], fun n => by rw [step_wants b h.1, ← h.2]; exact if_neg hj⟩

theorem subscribe_subscribes (b : Bus) (id : Nat) (names : List Name) (h : b.closed = false) :
    SubscribedTo (step b (.subscribe id names)) id names :=
  ⟨by simp [step, h], fun n => by simp [step_wants b h]⟩

theorem fifo (cmds : List Cmd) : ∀ (b : Bus) (id : Nat) (names : List Name),
    SubscribedTo b id names → (∀ c ∈ cmds, c.keeps id = true) →
    (run b cmds).received id = b.received id ++ matching names cmds ∧ SubscribedTo (run b cmds) id names := by
  induction cmds with
  | nil => intro b id names h _; exact ⟨(List.append_nil _).symm, h⟩
  | cons c rest ih =>
    intro b id names h hk
    obtain ⟨hc, hrest⟩ := List.forall_mem_cons.mp hk
    obtain ⟨r, s⟩ := ih (step b c) id names (step_keeps b c id names h hc) hrest
    refine ⟨?_, s⟩
    rw [run_cons, r, step_received, List.append_assoc, matching_eq_filter names (c :: rest), pubs_cons c rest,
      List.filter_append, ← matching_eq_filter names rest]
    simp only [h.1, h.2, Bool.not_false, Bool.true_and]

theorem received_sublist (cmds : List Cmd) : ∀ (b : Bus) (id : Nat),
    ∃ l, (run b cmds).received id = b.received id ++ l ∧ l.Sublist (pubs cmds) := by
  induction cmds with
  | nil => intro b id; exact ⟨[], by simp [run], by simp⟩
  | cons c rest ih =>
    intro b id
    obtain ⟨l, h, s⟩ := ih (step b c) id
    rw [step_received, List.append_assoc] at h
    exact ⟨_, h, pubs_cons c rest ▸ List.filter_sublist.append s⟩

theorem run_closed (cmds : List Cmd) (b : Bus) (h : b.closed = true) : run b cmds = b := by
  induction cmds with
  | nil => rfl
  | cons c rest ih => rw [run_cons, step_closed b c h, ih]

def Unsubscribed (b : Bus) (id : Nat) : Prop := ∀ s ∈ b.subs, s.1 ≠ id

theorem unsubscribed_wants (b : Bus) (id : Nat) (h : Unsubscribed b id) (n : Name) : b.wants id n = false :=
  List.any_eq_false.mpr fun s hs => by simp [h s hs]

/-- weaker twin of `Cmd.keeps` (model file): only a subscription of `id` is excluded -/
def Cmd.notSubscribe (id : Nat) : Cmd → Bool
  | .subscribe i _ => i != id
  | _ => true

theorem mem_step_subs (b : Bus) (c : Cmd) (s : Nat × List Name) (hs : s ∈ (step b c).subs) :
    s ∈ b.subs ∨ c = .subscribe s.1 s.2 := by
  cases hc : b.closed
  · simp only [step, hc, Bool.false_eq_true, if_false] at hs
    cases c with
    | subscribe j ns =>
      rcases List.mem_append.mp hs with h | h
      · exact Or.inl (List.mem_filter.mp h).1
      · cases List.mem_singleton.mp h; exact Or.inr rfl
    | unsubscribe j => exact Or.inl (List.mem_filter.mp hs).1
    | publish n p => exact Or.inl hs
    | close => cases hs
  · rw [step_closed b c hc] at hs; exact Or.inl hs

theorem step_unsubscribed (b : Bus) (c : Cmd) (id : Nat) (h : Unsubscribed b id)
    (hc : c.notSubscribe id = true) : Unsubscribed (step b c) id := by
  intro s hs
  rcases mem_step_subs b c s hs with h' | rfl
  · exact h s h'
  · simpa [Cmd.notSubscribe] using hc

theorem unsubscribed_receives_nothing (cmds : List Cmd) : ∀ (b : Bus) (id : Nat),
    Unsubscribed b id → (∀ c ∈ cmds, c.notSubscribe id = true) →
    (run b cmds).received id = b.received id := by
  induction cmds with
  | nil => intro b id _ _; rfl
  | cons c rest ih =>
    intro b id h hk
    obtain ⟨hc, hrest⟩ := List.forall_mem_cons.mp hk
    rw [run_cons, ih _ id (step_unsubscribed b c id h hc) hrest, step_received]
    simp [unsubscribed_wants b id h]

theorem unsubscribe_unsubscribes (b : Bus) (id : Nat) (h : b.closed = false) :
    Unsubscribed (step b (.unsubscribe id)) id := by
  intro s hs
  simp only [step, h, Bool.false_eq_true, if_false, List.mem_filter] at hs
  simpa using hs.2

end Defra.Events
