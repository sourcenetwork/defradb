import DefraModel.Index.Maint
import DefraModel.Proofs.Lookup

/-! The index holds exactly the entries of the live documents after every history of creates, updates and deletes. -/
namespace Defra.IndexMaint

variable {α κ : Type} [DecidableEq κ]

theorem unchanged_of_absent {t : List (Nat × α)} {id : Nat} (h : ∀ d ∈ t, (d.1 == id) = false) :
    t.filter (fun d => !(d.1 == id)) = t ∧ ∀ a, t.map (fun d => if d.1 == id then (id, a) else d) = t :=
  ⟨List.filter_eq_self.mpr fun d hd => by rw [h d hd]; rfl,
   fun a => (List.map_congr_left fun d hd => by rw [h d hd]; rfl).trans (List.map_id _)⟩

theorem split_of_find {docs : List (Nat × α)} {id : Nat} {old : Nat × α}
    (hn : (docs.map (·.1)).Nodup) (hf : docs.find? (·.1 == id) = some old) :
    ∃ l r, docs = l ++ (id, old.2) :: r ∧ docs.filter (fun d => !(d.1 == id)) = l ++ r ∧
      ∀ a, docs.map (fun d => if d.1 == id then (id, a) else d) = l ++ (id, a) :: r := by
  obtain ⟨hid, l, r, rfl, hl⟩ := List.find?_eq_some_iff_append.mp hf
  obtain rfl : old.1 = id := by simpa using hid
  rw [List.map_append, List.map_cons, List.nodup_append, List.nodup_cons] at hn
  have ⟨fl, ml⟩ := unchanged_of_absent (t := l) (id := old.1) fun d hd => by simpa using hl d hd
  have ⟨fr, mr⟩ := unchanged_of_absent (t := r) (id := old.1) fun d hd =>
    beq_eq_false_iff_ne.mpr fun h => hn.2.1.1 (h ▸ List.mem_map_of_mem hd)
  exact ⟨l, r, rfl, by simp [fl, fr],
    fun a => by simp only [List.map_append, List.map_cons, ml, mr, beq_self_eq_true, if_true]⟩

theorem mem_expected_of_find (key : α → κ) (docs : List (Nat × α)) (id : Nat) (old : Nat × α)
    (hf : docs.find? (·.1 == id) = some old) : (key old.2, id) ∈ expected key docs := by
  have hm := List.mem_of_find?_eq_some hf
  have hid : old.1 = id := by simpa using List.find?_some hf
  exact List.mem_map.mpr ⟨old, hm, by rw [hid]⟩

theorem perm_erase_entry (key : α → κ) {entries : List (κ × Nat)} {l r : List (Nat × α)} {id : Nat} {x : α}
    (hp : entries.Perm (expected key (l ++ (id, x) :: r))) :
    (entries.erase (key x, id)).Perm (expected key (l ++ r)) := by
  simp only [expected, List.map_append, List.map_cons] at hp ⊢
  simpa using (hp.trans List.perm_middle).erase (key x, id)

theorem step_inv (key : α → κ) (s : St α κ) (op : Op α) (h : Inv key s) : Inv key (step key s op) := by
  obtain ⟨hn, hp⟩ := h
  cases op with
  | create id a =>
    simp only [step]
    by_cases hany : s.docs.any (·.1 == id) = true
    · rw [if_pos hany]; exact ⟨hn, hp⟩
    rw [if_neg hany]
    refine ⟨Lookup.nodup_map_append hn hany, ?_⟩
    simp only [expected, List.map_append, List.map_cons, List.map_nil]
    exact List.Perm.append_right _ hp
  | update id a =>
    simp only [step]
    cases hf : s.docs.find? (·.1 == id) with
    | none => exact ⟨hn, hp⟩
    | some old =>
      obtain ⟨l, r, hd, -, hm⟩ := split_of_find hn hf
      rw [hd] at hn hp
      refine ⟨by rw [hm a]; simpa using hn, ?_⟩
      simp only [hm a]
      refine ((perm_erase_entry key hp).append_right _).trans ?_
      simp only [expected, List.map_append, List.map_cons]
      exact (List.perm_append_singleton _ _).trans List.perm_middle.symm
  | delete id =>
    simp only [step]
    cases hf : s.docs.find? (·.1 == id) with
    | none => exact ⟨hn, hp⟩
    | some old =>
      refine ⟨(List.filter_sublist.map _).nodup hn, ?_⟩
      obtain ⟨l, r, hd, hfl, -⟩ := split_of_find hn hf
      rw [hd] at hp
      simp only [hfl]
      exact perm_erase_entry key hp

theorem run_inv (key : α → κ) (s : St α κ) (ops : List (Op α)) (h : Inv key s) :
    Inv key (ops.foldl (step key) s) :=
  List.foldlRecOn ops _ h fun s hs op _ => step_inv key s op hs

end Defra.IndexMaint
