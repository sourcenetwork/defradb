import DefraModel.Proofs.CrdtMergeFull
import DefraModel.Proofs.CrdtAlgebra

/-!
Convergence for every history of deliveries: after any sequence of merges the values of a document are the deltas of
its merged blocks, each once (`DocInv`), so two replicas that have merged the same commits show the same values.
-/
namespace Defra.Crdt

def MergedIn (bs : Blocks) (s : DocState) (b : Block) : Prop :=
  bs.get? b.id = some b ∧ b.kind ≠ .col ∧ Reach bs (headsOf s b.kind) b.id

/-- the values are the deltas of the merged blocks, each once -/
def Accounted (bs : Blocks) (s : DocState) : Prop :=
  ∃ l : List Block, (l.map (·.id)).Nodup ∧ (∀ b, b ∈ l ↔ MergedIn bs s b) ∧ s.vals = l.foldl applyDelta {}

theorem accounted_converge (bs : Blocks) (s₁ s₂ : DocState) (h₁ : Accounted bs s₁) (h₂ : Accounted bs s₂)
    (same : ∀ b, MergedIn bs s₁ b ↔ MergedIn bs s₂ b) : s₁.vals = s₂.vals := by
  obtain ⟨l₁, n₁, m₁, v₁⟩ := h₁
  obtain ⟨l₂, n₂, m₂, v₂⟩ := h₂
  have hp : l₁.Perm l₂ := by
    apply (List.perm_ext_iff_of_nodup (ListLemmas.nodup_of_map _ n₁) (ListLemmas.nodup_of_map _ n₂)).mpr
    intro b
    rw [m₁ b, m₂ b, same b]
  rw [v₁, v₂]
  exact foldl_applyDelta_perm {} l₁ l₂ hp

theorem mergedIn_applied {bs : Blocks} {s : DocState} {e : Block} (g : GoodStep bs s e) (b : Block) :
    MergedIn bs (applied s e) b ↔ (MergedIn bs s b ∨ b = e) := by
  unfold MergedIn
  rw [reach_applied g]
  constructor
  · rintro ⟨h1, h2, h3 | ⟨h3, _⟩⟩
    · exact Or.inl ⟨h1, h2, h3⟩
    · exact Or.inr (Blocks.get?_inj g.stored h1 h3).symm
  · rintro (⟨h1, h2, h3⟩ | rfl)
    · exact ⟨h1, h2, Or.inl h3⟩
    · exact ⟨g.stored, g.notCol, Or.inr ⟨rfl, rfl⟩⟩

theorem accounted_applied {bs : Blocks} {s : DocState} {e : Block} (g : GoodStep bs s e) (h : Accounted bs s) :
    Accounted bs (applied s e) := by
  obtain ⟨l, hn, hm, hv⟩ := h
  refine ⟨l ++ [e], ?_, fun b => ?_, ?_⟩
  · rw [List.map_append, List.nodup_append]
    refine ⟨hn, by simp, fun a ha b hb hab => ?_⟩
    obtain ⟨x, hx, rfl⟩ := List.mem_map.mp ha
    obtain rfl := List.mem_singleton.mp hb
    obtain ⟨hxs, _, hxr⟩ := (hm x).mp hx
    obtain rfl := Blocks.get?_inj hxs g.stored hab
    exact g.unmerged hxr
  · rw [mergedIn_applied g, List.mem_append, hm, List.mem_singleton]
  · rw [applied_vals, hv, List.foldl_append]; rfl

/-- a merged field block is linked by a merged composite -/
def FieldsFollow (bs : Blocks) (s : DocState) : Prop :=
  ∀ fb f, bs.get? fb.id = some fb → fb.kind = .field f → Reach bs (headsOf s (.field f)) fb.id →
    ∃ a ab, bs.get? a = some ab ∧ ab.kind = .comp ∧ Reach bs s.heads a ∧ fb.id ∈ ab.links

/-- what every history of deliveries keeps of a document -/
structure DocInv (bs : Blocks) (s : DocState) : Prop where
  kinv : KInv bs s
  linkInv : LinkInv bs s
  accounted : Accounted bs s
  fieldsFollow : FieldsFollow bs s

theorem reach_nil (bs : Blocks) (t : Nat) : ¬ Reach bs [] t := fun h =>
  let ⟨_, hy, _⟩ := reach_path h
  nomatch hy

theorem headsOf_empty (k : Kind) : headsOf ({} : DocState) k = [] := by
  cases k <;> rfl

theorem docInv_empty (bs : Blocks) : DocInv bs {} := by
  refine ⟨?_, ?_, ⟨[], by simp, ?_, rfl⟩, ?_⟩
  · intro x _; rw [headsOf_empty]; exact ⟨List.nodup_nil, fun h hh => by cases hh⟩
  · intro a ab _ _ hr; exact absurd hr (reach_nil bs a)
  · intro b
    constructor
    · intro h; cases h
    · rintro ⟨_, _, h⟩; rw [headsOf_empty] at h; exact absurd h (reach_nil bs _)
  · intro fb f _ _ hr; rw [headsOf_empty] at hr; exact absurd hr (reach_nil bs _)

/-- `KInv`, `Accounted` and `I` go through the fold block by block; `LinkInv` and `FieldsFollow` are not kept by single
    blocks (a composite's links are merged only after it) and are read off the merged set at the end. -/
theorem mergeDoc_docInv (cx : Ctx) (swf : StoreWF3 cx.blocks)
    (hknown : ∀ l, (cx.blocks.get? l).isSome = true → cx.known l = true)
    (I : DocState → Prop) (hI : ∀ s e, GoodStep cx.blocks s e → I s → I (applied s e))
    (r : Replica) (c : Block) (hc : cx.blocks.get? c.id = some c) (hck : c.kind = .comp)
    (h : DocInv cx.blocks (r.doc c.doc)) (hi : I (r.doc c.doc)) :
    DocInv cx.blocks ((mergeDoc cx r c).doc c.doc) ∧ I ((mergeDoc cx r c).doc c.doc) := by
  obtain ⟨hk, hli, ha, hff⟩ := h
  obtain ⟨wfacts, hok, hk', hreach, _, ha', hi'⟩ := mergeDoc_full_inv cx swf hknown
    (fun s => Accounted cx.blocks s ∧ I s) (fun _ _ g h => ⟨accounted_applied g h.1, hI _ _ g h.2⟩)
    r c hc hck hk hli ⟨ha, hi⟩
  refine ⟨⟨hk', ?_, ha', ?_⟩, hi'⟩
  · intro a ab hga hak hr l hl lb hlb
    have hlbid := Blocks.get?_id hlb
    have hr' : Reach cx.blocks (headsOf ((mergeDoc cx r c).doc c.doc) .comp) a := hr
    rcases (hreach _ _).mp hr' with h | ⟨e, he, hid, hkind⟩
    · exact (hreach _ _).mpr (Or.inl (hli a ab hga hak h l hl lb hlb))
    · obtain rfl := Blocks.get?_inj (hok e he).stored hga hid
      -- `e` is one of the collected composites: its stored links follow it in the sequence
      rcases mem_flatSeq.mp he with hL | ⟨b, hb, hcb⟩
      · have hin : lb ∈ flatSeq cx.blocks _ := mem_flatSeq.mpr (Or.inr ⟨e, hL, mem_childBlocks.mpr ⟨l, hl, hlb⟩⟩)
        exact (hreach _ _).mpr (Or.inr ⟨lb, hin, hlbid, rfl⟩)
      · -- a child is a field block, not a composite
        obtain ⟨_, ⟨f, hf⟩, _⟩ := child_facts swf.base2 ((wfacts.mem b).mp hb).1 (wfacts.comp b hb) hcb
        rw [hak] at hf; cases hf
  · intro fb f hst hkf hr
    rcases (hreach _ _).mp hr with h | ⟨e, he, hid, hkind⟩
    · obtain ⟨a, ab, h1, h2, h3, h4⟩ := hff fb f hst hkf h
      exact ⟨a, ab, h1, h2, (hreach .comp a).mpr (Or.inl h3), h4⟩
    · rcases mem_flatSeq.mp he with hL | ⟨b, hb, hcb⟩
      · rw [wfacts.comp e hL] at hkind; cases hkind
      · obtain ⟨l, hl, hg⟩ := mem_childBlocks.mp hcb
        have hbst := ((wfacts.mem b).mp hb).1
        refine ⟨b.id, b, hbst, wfacts.comp b hb, ?_, ?_⟩
        · exact (hreach .comp b.id).mpr (Or.inr ⟨b, mem_flatSeq.mpr (Or.inl hb), rfl, wfacts.comp b hb⟩)
        · rw [← hid, Blocks.get?_id hg]; exact hl

theorem deliveries_inv (cx : Ctx) (swf : StoreWF3 cx.blocks)
    (hknown : ∀ l, (cx.blocks.get? l).isSome = true → cx.known l = true) (d : String) (I : DocState → Prop)
    (hI : ∀ s e, GoodStep cx.blocks s e → I s → I (applied s e)) :
    ∀ (cs : List Block) (r : Replica), (∀ c ∈ cs, cx.blocks.get? c.id = some c ∧ c.kind = .comp) →
      DocInv cx.blocks (r.doc d) → I (r.doc d) →
      DocInv cx.blocks ((cs.foldl (mergeDoc cx) r).doc d) ∧ I ((cs.foldl (mergeDoc cx) r).doc d) := by
  intro cs
  induction cs with
  | nil => exact fun r _ h i => ⟨h, i⟩
  | cons c t ih =>
    intro r hcs h i
    obtain ⟨hc, hck⟩ := hcs c List.mem_cons_self
    have ih' := ih (mergeDoc cx r c) fun x hx => hcs x (List.mem_cons_of_mem _ hx)
    by_cases hd : d = c.doc
    · subst hd
      obtain ⟨h', i'⟩ := mergeDoc_docInv cx swf hknown I hI r c hc hck h i
      exact ih' h' i'
    · rw [mergeDoc_other_doc cx swf r c hc hck d hd] at ih'
      exact ih' h i

theorem deliveries_docInv (cx : Ctx) (swf : StoreWF3 cx.blocks)
    (hknown : ∀ l, (cx.blocks.get? l).isSome = true → cx.known l = true) (d : String) :
    ∀ (cs : List Block) (r : Replica), (∀ c ∈ cs, cx.blocks.get? c.id = some c ∧ c.kind = .comp) →
      DocInv cx.blocks (r.doc d) → DocInv cx.blocks ((cs.foldl (mergeDoc cx) r).doc d) :=
  fun cs r hcs h => (deliveries_inv cx swf hknown d (fun _ => True) (fun _ _ _ _ => trivial) cs r hcs h trivial).1

/-- under `DocInv`, which blocks are merged is determined by which commits (composites) are merged -/
theorem mergedIn_of_same_commits (bs : Blocks) (s₁ s₂ : DocState)
    (h₁ : DocInv bs s₁) (h₂ : DocInv bs s₂) (same : ∀ t, Reach bs s₁.heads t ↔ Reach bs s₂.heads t) (b : Block)
    (hm : MergedIn bs s₁ b) : MergedIn bs s₂ b := by
  obtain ⟨hst, hnc, hr⟩ := hm
  refine ⟨hst, hnc, ?_⟩
  cases hk : b.kind with
  | col => exact absurd hk hnc
  | comp =>
    rw [hk] at hr
    exact (same b.id).mp hr
  | field f =>
    rw [hk] at hr
    obtain ⟨a, ab, h1, h2, h3, h4⟩ := h₁.fieldsFollow b f hst hk hr
    have := h₂.linkInv a ab h1 h2 ((same a).mp h3) b.id h4 b hst
    rw [hk] at this
    exact this

theorem same_commits_same_values (bs : Blocks) (s₁ s₂ : DocState)
    (h₁ : DocInv bs s₁) (h₂ : DocInv bs s₂) (same : ∀ t, Reach bs s₁.heads t ↔ Reach bs s₂.heads t) :
    s₁.vals = s₂.vals :=
  accounted_converge bs s₁ s₂ h₁.accounted h₂.accounted (fun b =>
    ⟨mergedIn_of_same_commits bs s₁ s₂ h₁ h₂ same b,
     mergedIn_of_same_commits bs s₂ s₁ h₂ h₁ (fun t => (same t).symm) b⟩)

/-! ### the heads are the merged blocks without a merged child

For `mergeDoc` itself, every kind of head set. The same fact is stated twice more in CrdtHeads, each proved on its own
from `updateHeads_mem`: `HeadsAreMaximal` for one step over an abstract parent relation, `HeadsOfMerged` for a causally
ordered list of commits fed to `updateHeads` alone. -/

/-- no merged block names a head as parent -/
def HeadsChildless (bs : Blocks) (s : DocState) : Prop :=
  ∀ k x, x ∈ headsOf s k → ∀ y yb, Reach bs (headsOf s k) y → bs.get? y = some yb → x ∉ yb.parents

theorem headsChildless_applied (bs : Blocks) (s : DocState) (e : Block) (g : GoodStep bs s e)
    (h : HeadsChildless bs s) : HeadsChildless bs (applied s e) := by
  intro k x hx y yb hry hgy hxp
  rw [headsOf_applied s e g.notCol k] at hx hry
  by_cases hke : k = e.kind
  · subst hke
    simp only [if_true] at hx hry
    have hmem := (updateHeads_mem _ e g.nodup x).mp hx
    have hreach := (reach_updateHeads bs _ e g.nodup g.stored g.parents g.links y).mp hry
    rcases hmem with rfl | ⟨hxh, hxn⟩
    · rcases hreach with hr | rfl
      · exact g.unmerged (Reach.parent hr hgy hxp)
      · rw [g.stored] at hgy; cases hgy
        exact g.notSelf (List.mem_append_left _ hxp)
    · rcases hreach with hr | rfl
      · exact h _ x hxh y yb hr hgy hxp
      · rw [g.stored] at hgy; cases hgy
        exact hxn (List.mem_append_left _ hxp)
  · simp only [hke, if_false] at hx hry
    exact h k x hx y yb hry hgy hxp

theorem heads_exact (bs : Blocks) (s : DocState) (h : HeadsChildless bs s) (k : Kind) (x : Nat) :
    x ∈ headsOf s k ↔
      (Reach bs (headsOf s k) x ∧ ∀ y yb, Reach bs (headsOf s k) y → bs.get? y = some yb → x ∉ yb.parents) := by
  constructor
  · intro hx; exact ⟨Reach.head hx, h k x hx⟩
  · rintro ⟨hr, hc⟩
    cases hr with
    | head hx => exact hx
    | parent hy hg hp => exact absurd hp (hc _ _ hy hg)

theorem headsChildless_empty (bs : Blocks) : HeadsChildless bs {} := by
  intro k x hx; rw [headsOf_empty] at hx; cases hx

end Defra.Crdt
