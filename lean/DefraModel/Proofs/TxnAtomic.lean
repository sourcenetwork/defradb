/-
The transaction monad (`Kv/TxnM.lean`): a program that ends in `ok` met no fault, so a call in its own transaction is
either rolled back or equal to the fault-free call.
-/
import DefraModel.Kv.TxnM
namespace Defra.Kv

theorem run_ok_eq_faultfree {α : Type} (fails : Nat → Bool) (p : Prog α) (t : Txn) (a : α) (t' : Txn)
    (h : run fails p t = (.ok a, t')) : run (fun _ => false) p t = (.ok a, t') := by
  induction p generalizing t with
  | pure x => exact h
  | fail => cases h
  | onSuccess e cont ih => exact ih _ h
  | get _ _ ih | has _ _ ih | set _ _ _ ih | del _ _ ih | scan _ _ _ ih =>
    simp only [run] at h ⊢
    split at h
    · cases h
    · apply ih; exact h

theorem run_snapshot {α : Type} (fails : Nat → Bool) :
    ∀ (p : Prog α) (t : Txn), (run fails p t).2.snapshot = t.snapshot := by
  intro p
  induction p with
  | pure | fail => intro t; rfl
  | onSuccess e cont ih => intro t; exact ih _
  | get _ _ ih | has _ _ ih | set _ _ _ ih | del _ _ ih | scan _ _ _ ih =>
    intro t
    simp only [run]
    split
    · rfl
    · exact ih ..

/-- a call ends in one of two ways: rolled back, or committed with the view and the callbacks its body built up -/
theorem withTxn_cases {α : Type} (fails : Nat → Bool) (body : Prog α) (store : Store) :
    withTxn fails body store = { res := .err, store := store, published := [] } ∨
    ∃ a t, run fails body { snapshot := store } = (.ok a, t) ∧ fails (t.ticks + 1) = false ∧
      withTxn fails body store = { res := .ok a, store := t.view, published := t.callbacks } := by
  unfold withTxn
  cases h : run fails body { snapshot := store } with
  | mk r t =>
    cases r with
    | err => exact Or.inl rfl
    | ok a =>
      cases hf : fails (t.ticks + 1)
      · exact Or.inr ⟨a, t, rfl, hf, by simp [hf]⟩
      · exact Or.inl (by simp [hf])

theorem withTxn_err {α : Type} {fails : Nat → Bool} {body : Prog α} {store : Store}
    (h : (withTxn fails body store).res = .err) :
    withTxn fails body store = { res := .err, store := store, published := [] } := by
  rcases withTxn_cases fails body store with e | ⟨a, t, _, _, e⟩
  · exact e
  · rw [e] at h; cases h

theorem withTxn_ok {α : Type} {fails : Nat → Bool} {body : Prog α} {store : Store} {a : α}
    (h : (withTxn fails body store).res = .ok a) :
    withTxn fails body store = withTxn (fun _ => false) body store := by
  rcases withTxn_cases fails body store with e | ⟨a', t, hr, _, e⟩
  · rw [e] at h; cases h
  · rw [e, withTxn, run_ok_eq_faultfree fails body _ a' t hr]; rfl

theorem runCalls_append {α : Type} (l₁ l₂ : List ((Nat → Bool) × Prog α)) (s : Store) :
    runCalls (l₁ ++ l₂) s =
      ((runCalls l₂ (runCalls l₁ s).1).1, (runCalls l₁ s).2 ++ (runCalls l₂ (runCalls l₁ s).1).2) := by
  induction l₁ generalizing s with
  | nil => simp [runCalls]
  | cons c l ih =>
    obtain ⟨f, p⟩ := c
    simp only [List.cons_append, runCalls]
    rw [ih]
    simp [List.append_assoc]

end Defra.Kv
