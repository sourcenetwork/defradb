import DefraModel.Crdt.WfCheck
import DefraModel.Proofs.CrdtMergeFull

/-!
The executable checks of Crdt/WfCheck.lean imply the hypotheses of the end-to-end merge theorems. `drv crdt` evaluates
them on every store and state of a run, so the theorems speak about those runs.
-/
namespace Defra.Crdt

/-- how the checks read a lookup: an absent block fails here, passes in the primed version -/
theorem match_some_eq_true {o : Option Block} {f : Block → Bool} :
    (match o with | some b => f b | none => false) = true ↔ ∃ b, o = some b ∧ f b = true := by
  cases o <;> simp

theorem match_some_eq_true' {o : Option Block} {f : Block → Bool} :
    (match o with | some b => f b | none => true) = true ↔ ∀ b, o = some b → f b = true := by
  cases o <;> simp

theorem isFieldKind_iff (k : Kind) : isFieldKind k = true ↔ ∃ f, k = .field f := by
  cases k <;> simp [isFieldKind]

theorem wfCheck_sound (bs : Blocks) (h : wfCheck bs = true) : StoreWF2 bs := by
  simp only [wfCheck, Bool.and_eq_true, List.all_eq_true] at h
  have hok := fun y b (hg : bs.get? y = some b) => h.2 b (get?_mem hg)
  simp only [blockOk, Bool.and_eq_true, Bool.or_eq_true, Bool.not_eq_true', List.all_eq_true] at hok
  have hcomp := fun y b (hg : bs.get? y = some b) (hk : b.kind = .comp) =>
    (hok y b hg).2.resolve_left (by simp [hk])
  have hpar := fun y b hg hk p hp => match_some_eq_true.mp ((hcomp y b hg hk).1 p hp)
  have hlink := fun y b hg hk l hl => match_some_eq_true.mp ((hcomp y b hg hk).2 l hl)
  simp only [Bool.and_eq_true, beq_iff_eq, isFieldKind_iff, List.isEmpty_iff] at hpar hlink
  refine ⟨⟨fun y b hg p hp => ?_, fun y b hg hk p hp => ?_, fun y b hg hk l hl ⟨lb', h1', h2'⟩ => ?_⟩,
    fun y b hg hk p hp pb hpb => ?_, fun y b hg hk l hl lb hlb => ?_, fun y b hg hk l hl => ?_⟩
  · obtain ⟨pb, hpb, hlt⟩ := match_some_eq_true.mp ((hok y b hg).1 p hp)
    exact ⟨pb, hpb, of_decide_eq_true hlt⟩
  · obtain ⟨pb, hpb, hpk, _⟩ := hpar y b hg hk p hp
    exact ⟨pb, hpb, hpk⟩
  · obtain ⟨lb, h1, ⟨f, hf⟩, _⟩ := hlink y b hg hk l hl
    rw [h1] at h1'; cases h1'
    rw [hf] at h2'; cases h2'
  · obtain ⟨pb', h1, _, h3⟩ := hpar y b hg hk p hp
    rw [hpb] at h1; cases h1
    exact h3
  · obtain ⟨lb', h1, h2, h3⟩ := hlink y b hg hk l hl
    rw [hlb] at h1; cases h1
    exact ⟨h2, h3⟩
  · obtain ⟨lb, h1, _⟩ := hlink y b hg hk l hl
    rw [h1]; rfl

theorem headsCheck_sound (bs : Blocks) (heads : List Nat) (h : headsCheck bs heads = true) : HInv bs heads := by
  simp only [headsCheck, Bool.and_eq_true, decide_eq_true_eq, List.all_eq_true] at h
  refine ⟨h.1, fun x hx => ?_⟩
  obtain ⟨b, hb, hk⟩ := match_some_eq_true.mp (h.2 x hx)
  exact ⟨b, hb, beq_iff_eq.mp hk⟩

theorem wfCheck3_sound (bs : Blocks) (h : wfCheck3 bs = true) : StoreWF3 bs := by
  simp only [wfCheck3, Bool.and_eq_true, List.all_eq_true] at h
  obtain ⟨hwf, h3⟩ := h
  have hnodup : (bs.map (·.id)).Nodup := by
    simp only [wfCheck, Bool.and_eq_true, decide_eq_true_eq] at hwf
    exact hwf.1
  have hcomp : ∀ y b, bs.get? y = some b → b.kind = .comp → ∀ l ∈ b.links, ∀ lb, bs.get? l = some lb →
      lb.doc = b.doc ∧ ∀ p ∈ lb.parents, ∃ ab ∈ bs, ((ab.kind = .comp ∧ ab.id ≠ b.id) ∧ p ∈ ab.links) ∧
        isMerged bs [b.id] ab.id ab.height = true := by
    intro y b hg hk l hl lb hlb
    have := h3 b (get?_mem hg)
    simp only [block3Ok, hk, List.all_eq_true] at this
    have := match_some_eq_true'.mp (this l hl) lb hlb
    simpa only [Bool.and_eq_true, beq_iff_eq, List.all_eq_true, List.any_eq_true, bne_iff_ne, ne_eq,
      List.contains_iff_mem] using this
  refine ⟨wfCheck_sound bs hwf, fun y b hg hk l hl lb hlb => (hcomp y b hg hk l hl lb hlb).1,
    fun y b f hg hk p hp pb hpb => ?_, fun y b hg hk l hl fb hfb p hp => ?_⟩
  · have := h3 b (get?_mem hg)
    simp only [block3Ok, hk, List.all_eq_true] at this
    exact beq_iff_eq.mp (match_some_eq_true'.mp (this p hp) pb hpb)
  · obtain ⟨ab, hab, ⟨⟨h1, h2⟩, h3'⟩, h4⟩ := (hcomp y b hg hk l hl fb hfb).2 p hp
    -- `isMerged … [b.id]` gives a path from `b` to `ab`, of positive length since `ab ≠ b`
    obtain ⟨y', hy', n, hn⟩ := reach_path (isMerged_sound bs [b.id] ab.id ab.height h4)
    obtain rfl := List.mem_singleton.mp hy'
    obtain rfl := Blocks.get?_id hg
    cases n with
    | zero => exact absurd (path_zero_eq hn).symm h2
    | succ m => exact ⟨ab.id, ab, m, hn, get?_of_mem_nodup bs hnodup ab hab, h1, h3'⟩

theorem kinvCheck_sound (bs : Blocks) (s : DocState) (h : kinvCheck bs s = true) : KInv bs s := by
  simp only [kinvCheck, List.all_eq_true, Bool.and_eq_true, decide_eq_true_eq] at h
  refine fun x hx => ⟨(h x hx).1, fun hh hmem => ?_⟩
  obtain ⟨hb, hg, hk⟩ := match_some_eq_true.mp ((h x hx).2 hh hmem)
  exact ⟨hb, hg, beq_iff_eq.mp hk⟩

theorem linkInvCheck_sound (bs : Blocks) (wf : WellFormed bs) (s : DocState) (h : linkInvCheck bs s = true) :
    LinkInv bs s := by
  simp only [linkInvCheck, List.all_eq_true] at h
  intro a ab hga hak hr l hl lb hlb
  obtain rfl := Blocks.get?_id hga
  have := h ab (get?_mem hga)
  simp only [hak, isMerged_complete bs wf s.heads _ ab hga hr, beq_self_eq_true, Bool.and_self, Bool.not_true,
    Bool.false_or, List.all_eq_true] at this
  exact isMerged_sound bs _ l lb.height (match_some_eq_true'.mp (this l hl) lb hlb)

end Defra.Crdt
