import DefraModel.Ident.SchemaSets
/-! `SameSet` depends on the definitions only through membership and is decided by `sameSetB` where the closure is
    closed. For a call split in two (`Split`) a path is followed relation by relation while a set of types is not left
    (`Path.forward`, `Path.backward`, `Split.succs_first`, `Split.succs_second`). -/
namespace Defra.SchemaSets

theorem isNode_iff {g : G} {a : Nat} : isNode g a = true ↔ ∃ t ∈ g, t.name = a := by
  simp [isNode, List.any_eq_true]

theorem mem_succs {g : G} {a b : Nat} :
    b ∈ succs g a ↔ (∃ t ∈ g, t.name = a ∧ b ∈ t.refs) ∧ ∃ u ∈ g, u.name = b := by
  unfold succs
  simp only [List.mem_filter, List.mem_flatMap, isNode_iff, beq_iff_eq, and_assoc]

theorem Path.append {g : G} {a b c : Nat} (h1 : Path g a b) (h2 : Path g b c) : Path g a c := by
  induction h1 with
  | step h => exact .trans h h2
  | trans h _ ih => exact .trans h (ih h2)

theorem Path.forward {g g' : G} {S : Nat → Prop} (hS : ∀ {x y}, S x → y ∈ succs g x → y ∈ succs g' x ∧ S y)
    {a b : Nat} (p : Path g a b) (ha : S a) : Path g' a b ∧ S b := by
  induction p with
  | step h => exact ⟨.step (hS ha h).1, (hS ha h).2⟩
  | trans h _ ih => exact ⟨.trans (hS ha h).1 (ih (hS ha h).2).1, (ih (hS ha h).2).2⟩

theorem Path.backward {g g' : G} {S : Nat → Prop} (hS : ∀ {x y}, S y → y ∈ succs g x → y ∈ succs g' x ∧ S x)
    {a b : Nat} (p : Path g a b) (hb : S b) : Path g' a b ∧ S a := by
  induction p with
  | step h => exact ⟨.step (hS hb h).1, (hS hb h).2⟩
  | trans h _ ih => exact ⟨.trans (hS (ih hb).2 h).1 (ih hb).1, (hS (ih hb).2 h).2⟩

theorem SameSet.mono {g g' : G} (hsub : ∀ t, t ∈ g → t ∈ g') {a b : Nat} : SameSet g a b → SameSet g' a b := by
  have hS : ∀ {x y}, True → y ∈ succs g x → y ∈ succs g' x ∧ True := fun _ hy =>
    have ⟨⟨t, ht, h1⟩, u, hu, h2⟩ := mem_succs.mp hy
    ⟨mem_succs.mpr ⟨⟨t, hsub t ht, h1⟩, u, hsub u hu, h2⟩, trivial⟩
  exact Or.imp_right fun ⟨p, q⟩ => ⟨(p.forward hS trivial).1, (q.forward hS trivial).1⟩

theorem sameSet_of_same_members {g g' : G} (h : ∀ t, t ∈ g ↔ t ∈ g') (a b : Nat) :
    SameSet g a b ↔ SameSet g' a b :=
  ⟨SameSet.mono fun t => (h t).mp, SameSet.mono fun t => (h t).mpr⟩

theorem mem_expand {g : G} {s : List Nat} {x : Nat} :
    x ∈ expand g s ↔ x ∈ s ∨ ∃ y ∈ s, x ∈ succs g y := by
  unfold expand
  simp only [List.mem_append, List.mem_eraseDups, List.mem_filter, List.mem_flatMap]
  by_cases hc : x ∈ s
  · exact iff_of_true (.inl hc) (.inl hc)
  · simp [hc]

theorem closure_induction {g : G} {P : Nat → Prop} (hP : ∀ x y, P x → y ∈ succs g x → P y) :
    ∀ (n : Nat) (s : List Nat), (∀ x ∈ s, P x) → ∀ x ∈ closure g n s, P x
  | 0, _, hs => hs
  | n + 1, s, hs => closure_induction hP n (expand g s) fun x hx =>
      (mem_expand.mp hx).elim (hs x) fun ⟨y, hy, hxy⟩ => hP y x (hs y hy) hxy

theorem closure_superset {g : G} : ∀ (n : Nat) (s : List Nat) (x : Nat), x ∈ s → x ∈ closure g n s
  | 0, _, _, h => h
  | n + 1, s, x, h => closure_superset n (expand g s) x (mem_expand.mpr (.inl h))

theorem reachFrom_sound {g : G} {a x : Nat} (h : x ∈ reachFrom g a) : Path g a x :=
  closure_induction (fun _ _ p hy => p.append (.step hy)) _ _ (fun _ => .step) x h

theorem closed_complete {g : G} {s : List Nat} (hc : closedB g s = true) {a b : Nat}
    (h0 : ∀ y, y ∈ succs g a → y ∈ s) (p : Path g a b) : b ∈ s := by
  have hstep : ∀ x ∈ s, ∀ y ∈ succs g x, y ∈ s := fun x hx y hy =>
    List.contains_iff_mem.mp (List.all_eq_true.mp (List.all_eq_true.mp hc x hx) y hy)
  induction p with
  | step h => exact h0 _ h
  | trans h _ ih => exact ih (hstep _ (h0 _ h))

theorem reachFrom_complete {g : G} {a b : Nat} (hc : closedB g (reachFrom g a) = true) (p : Path g a b) :
    b ∈ reachFrom g a :=
  closed_complete hc (closure_superset _ _) p

theorem sameSetB_iff {g : G} {a b : Nat} (ha : closedB g (reachFrom g a) = true)
    (hb : closedB g (reachFrom g b) = true) : sameSetB g a b = true ↔ SameSet g a b := by
  unfold sameSetB SameSet
  simp only [Bool.or_eq_true, beq_iff_eq, Bool.and_eq_true, List.contains_iff_mem]
  exact or_congr Iff.rfl
    (and_congr ⟨reachFrom_sound, reachFrom_complete ha⟩ ⟨reachFrom_sound, reachFrom_complete hb⟩)

/-- the definitions of an earlier call `g1` and of a later call `g2`: names are distinct and the earlier call does not
    refer to types of the later one -/
structure Split (g1 g2 : G) : Prop where
  disjoint : ∀ t ∈ g1, ∀ u ∈ g2, t.name ≠ u.name
  closed : ∀ t ∈ g1, ∀ r ∈ t.refs, isNode g2 r = false

theorem Split.succs_first {g1 g2 : G} (hs : Split g1 g2) {x y : Nat} (hx : isNode g1 x = true)
    (hy : y ∈ succs (g1 ++ g2) x) : y ∈ succs g1 x ∧ isNode g1 y = true := by
  obtain ⟨⟨t, ht, hn, hb⟩, u, hu, hun⟩ := mem_succs.mp hy
  obtain ⟨tx, htx, htxn⟩ := isNode_iff.mp hx
  have ht1 : t ∈ g1 := (List.mem_append.mp ht).resolve_right fun h => hs.disjoint tx htx t h (htxn.trans hn.symm)
  have hu1 : u ∈ g1 := (List.mem_append.mp hu).resolve_right fun h =>
    Bool.false_ne_true ((hs.closed t ht1 y hb).symm.trans (isNode_iff.mpr ⟨u, h, hun⟩))
  exact ⟨mem_succs.mpr ⟨⟨t, ht1, hn, hb⟩, u, hu1, hun⟩, isNode_iff.mpr ⟨u, hu1, hun⟩⟩

theorem Split.succs_second {g1 g2 : G} (hs : Split g1 g2) {x y : Nat} (hy : isNode g2 y = true)
    (h : y ∈ succs (g1 ++ g2) x) : y ∈ succs g2 x ∧ isNode g2 x = true := by
  obtain ⟨⟨t, ht, hn, hb⟩, -⟩ := mem_succs.mp h
  have ht2 : t ∈ g2 := (List.mem_append.mp ht).resolve_left fun h1 =>
    Bool.false_ne_true ((hs.closed t h1 y hb).symm.trans hy)
  exact ⟨mem_succs.mpr ⟨⟨t, ht2, hn, hb⟩, isNode_iff.mp hy⟩, isNode_iff.mpr ⟨t, ht2, hn⟩⟩

end Defra.SchemaSets
