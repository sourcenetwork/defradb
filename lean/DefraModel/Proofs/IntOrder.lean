/- Varints: a tag that rises or falls with the width `w`, then `be w x`; order and round trips come from that form. -/
import DefraModel.Encoding.Int
import DefraModel.Proofs.BytesLemmas
namespace Defra.Enc
open Defra.Bytes

theorem be_length : ∀ (w x : Nat), (be w x).length = w
  | 0, _ => rfl
  | w + 1, x => by simp [be, be_length w x]

theorem be_isBytes : ∀ (w x : Nat), IsBytes (be w x)
  | 0, _ => isBytes_nil
  | w + 1, x => isBytes_cons (Nat.mod_lt _ (by decide)) (be_isBytes w x)

theorem be_slt : ∀ (w x y : Nat), x % 256 ^ w < y % 256 ^ w → slt (be w x) (be w y) = true
  | 0, x, y, h => by simp [Nat.mod_one] at h
  | w + 1, x, y, h => by
    rw [Nat.pow_succ, Nat.mod_mul, Nat.mod_mul] at h
    have hP : 0 < 256 ^ w := Nat.pow_pos (by decide)
    have hx := Nat.mod_lt x hP
    have hy := Nat.mod_lt y hP
    rw [be, be, slt_cons_iff]
    rcases Nat.lt_trichotomy (x / 256 ^ w % 256) (y / 256 ^ w % 256) with hlt | heq | hgt
    · exact Or.inl hlt
    · exact Or.inr ⟨heq, be_slt w x y (by rw [heq] at h; omega)⟩
    · have := Nat.mul_le_mul_left (256 ^ w) (Nat.succ_le_of_lt hgt)
      rw [Nat.mul_succ] at this
      omega

theorem be_lt {w x y : Nat} (h : x < y) (hy : y < 256 ^ w) : slt (be w x) (be w y) = true :=
  be_slt w x y (by rw [Nat.mod_eq_of_lt (Nat.lt_trans h hy), Nat.mod_eq_of_lt hy]; exact h)

theorem beVal_foldl (l : Bytes) (acc : Nat) :
    l.foldl (fun v t => v * 256 + t) acc = acc * 256 ^ l.length + beVal l := by
  induction l generalizing acc with
  | nil => simp [beVal]
  | cons x l ih =>
    simp only [List.foldl_cons, List.length_cons, beVal]
    rw [ih, ih (0 * 256 + x), Nat.pow_succ]
    simp only [Nat.zero_mul, Nat.zero_add, Nat.add_mul]
    rw [Nat.mul_assoc, Nat.mul_comm 256]
    omega

theorem beVal_cons (x : Nat) (l : Bytes) : beVal (x :: l) = x * 256 ^ l.length + beVal l := by
  have := beVal_foldl l (0 * 256 + x)
  simp only [Nat.zero_mul, Nat.zero_add] at this
  simpa [beVal] using this

theorem beVal_be : ∀ (w x : Nat), beVal (be w x) = x % 256 ^ w
  | 0, x => by simp [be, beVal, Nat.mod_one]
  | w + 1, x => by
    rw [be, beVal_cons, be_length, beVal_be w x, Nat.pow_succ, Nat.mod_mul]
    rw [Nat.mul_comm]; omega

theorem beVal_compl : ∀ (l : Bytes), IsBytes l → beVal (compl l) + beVal l + 1 = 256 ^ l.length
  | [], _ => rfl
  | x :: l, h => by
    obtain ⟨hx, hl⟩ := isBytes_cons_iff.mp h
    have ih := beVal_compl l hl
    have e : (255 - x) * 256 ^ l.length + x * 256 ^ l.length = 255 * 256 ^ l.length := by
      rw [← Nat.add_mul]; congr 1; omega
    rw [show compl (x :: l) = (255 - x) :: compl l from rfl, beVal_cons, beVal_cons,
      show (compl l).length = l.length from List.length_map _, List.length_cons, Nat.pow_succ]
    omega

/-- one level of an `if` chain -/
theorem ite_cases {α : Sort _} {P : α → Prop} {c : Prop} [Decidable c] {a b : α} (ha : c → P a) (hb : ¬ c → P b) :
    P (if c then a else b) := by
  by_cases h : c
  · rw [if_pos h]; exact ha h
  · rw [if_neg h]; exact hb h

/-- the `switch` of `EncodeUvarintAscending`: the least width in `1 … 8` whose bytes hold `v` -/
theorem uwidth_spec (v : Nat) :
    1 ≤ uwidth v ∧ uwidth v ≤ 8 ∧ (uwidth v = 1 ∨ 256 ^ (uwidth v - 1) ≤ v) ∧ (uwidth v = 8 ∨ v < 256 ^ uwidth v) := by
  unfold uwidth
  -- level by level (`split` on the whole chain is slow to check)
  iterate 7
    refine ite_cases (P := fun w => 1 ≤ w ∧ w ≤ 8 ∧ (w = 1 ∨ 256 ^ (w - 1) ≤ v) ∧ (w = 8 ∨ v < 256 ^ w))
      (fun _ => ?_) (fun _ => ?_)
    · omega
  omega

theorem uwidth_range (v : Nat) : 1 ≤ uwidth v ∧ uwidth v ≤ 8 := ⟨(uwidth_spec v).1, (uwidth_spec v).2.1⟩

theorem uwidth_mono (a b : Nat) (h : a ≤ b) : uwidth a ≤ uwidth b := by
  obtain ⟨_, _, ha, _⟩ := uwidth_spec a
  obtain ⟨_, _, _, hb⟩ := uwidth_spec b
  apply Nat.le_of_not_lt
  intro hlt
  have := Nat.pow_le_pow_right (n := 256) (by decide) (show uwidth b ≤ uwidth a - 1 by omega)
  omega

theorem uwidth_bound (v : Nat) (h : v < 2 ^ 64) : v < 256 ^ uwidth v := by
  rcases (uwidth_spec v).2.2.2 with h8 | hlt
  · rw [h8]; exact h
  · exact hlt

/-- the negative branch of `EncodeVarintAscending`: the same thresholds, for `-v` -/
theorem nwidth_eq (v : Int) : nwidth v = uwidth (-v).toNat := by
  have e : ∀ k : Nat, ((-v).toNat ≤ k) ↔ (v ≥ -(k : Int)) := fun k => by omega
  unfold nwidth uwidth
  simp only [e]
  rfl

/-- `256 ^ w` divides `2 ^ 64`, so the `w` low bytes of `^v` complement `v` -/
theorem compl_mod (w v : Nat) (hw : w ≤ 8) (hv : v < 256 ^ w) : (2 ^ 64 - 1 - v) % 256 ^ w = 256 ^ w - 1 - v := by
  have h1 : 1 ≤ 256 ^ w := by omega
  have h2 : v ≤ 256 ^ w - 1 := by omega
  have h3 : 256 ^ w - 1 - v < 256 ^ w := by omega
  have hq : 2 ^ 64 = 256 ^ w * (256 ^ (8 - w) - 1) + 256 ^ w := by
    rw [← Nat.mul_succ, Nat.succ_eq_add_one, Nat.sub_add_cancel (Nat.pow_pos (by decide)), ← Nat.pow_add,
      Nat.add_sub_cancel' hw]
  rw [hq, Nat.add_sub_assoc h1, Nat.add_sub_assoc h2, Nat.mul_add_mod, Nat.mod_eq_of_lt h3]

/-- the decoders of the descending forms complement the `w` payload bytes of `^n` back to `n` -/
theorem beVal_compl_not (w n : Nat) (hw : w ≤ 8) (hn : n < 256 ^ w) :
    beVal ((be w (2 ^ 64 - 1 - n)).map (fun t => 255 - t)) = n := by
  have := beVal_compl (be w (2 ^ 64 - 1 - n)) (be_isBytes _ _)
  rw [beVal_be, be_length, compl_mod w n hw hn] at this
  unfold compl at this
  omega

theorem uvarintAsc_form (v : Nat) : ∃ t w, uvarintAsc v = t :: be w v ∧ intZero ≤ t ∧ t ≤ IntMax := by
  have := uwidth_range v
  unfold uvarintAsc intZero IntMax intSmall
  by_cases h : v ≤ 109
  · exact ⟨_, 0, if_pos h, by omega⟩
  · exact ⟨_, _, if_neg h, by omega⟩

theorem varintAsc_negSucc (n : Nat) (hn : n < 2 ^ 64) :
    varintAsc (Int.negSucc n) = (IntMin + 8 - uwidth (n + 1)) :: be (uwidth (n + 1)) (2 ^ 64 - 1 - n) := by
  have e : (Int.negSucc n + 2 ^ 64).toNat = 2 ^ 64 - 1 - n := by omega
  rw [varintAsc, if_pos (Int.negSucc_lt_zero n), nwidth_eq, e]; rfl

theorem varintAsc_form (v : Int) : ∃ t w x, varintAsc v = t :: be w x ∧ IntMin ≤ t ∧ t ≤ IntMax := by
  unfold varintAsc
  by_cases h : v < 0
  · have := nwidth_eq v ▸ uwidth_range (-v).toNat
    exact ⟨_, _, _, if_pos h, by simp only [IntMin, IntMax]; omega⟩
  · obtain ⟨t, w, e, h1, h2⟩ := uvarintAsc_form v.toNat
    exact ⟨t, w, _, (if_neg h).trans e, by simp only [IntMin, IntMax, intZero] at *; omega⟩

theorem uvarintAsc_isBytes (v : Nat) : IsBytes (uvarintAsc v) := by
  obtain ⟨t, w, e, _, h⟩ := uvarintAsc_form v
  rw [e]; exact isBytes_cons (by simp only [IntMax] at h; omega) (be_isBytes _ _)

theorem varintAsc_isBytes (v : Int) : IsBytes (varintAsc v) := by
  obtain ⟨t, w, x, e, _, h⟩ := varintAsc_form v
  rw [e]; exact isBytes_cons (by simp only [IntMax] at h; omega) (be_isBytes _ _)

/-- tags `t₁ ≤ t₂`, payloads `be w x`: under equal tags the widths agree and the residues decide -/
theorem slt_tagged {t₁ t₂ w₁ w₂ x y : Nat} (ht : t₁ ≤ t₂)
    (hw : t₁ = t₂ → w₁ = w₂ ∧ x % 256 ^ w₁ < y % 256 ^ w₁) : slt (t₁ :: be w₁ x) (t₂ :: be w₂ y) = true := by
  rw [slt_cons_iff]
  by_cases h : t₁ = t₂
  · obtain ⟨rfl, hlt⟩ := hw h
    exact Or.inr ⟨h, be_slt _ _ _ hlt⟩
  · exact Or.inl (by omega)

/-- tag `c - w` falling with the width, payload the `w` low bytes of `^a`: the larger value sorts first -/
theorem slt_tagged_compl {c wa wb a b : Nat} (h : a < b) (hw : wa ≤ wb) (hc : wb ≤ c) (h8 : wb ≤ 8)
    (hb : b < 256 ^ wb) :
    slt ((c - wb) :: be wb (2 ^ 64 - 1 - b)) ((c - wa) :: be wa (2 ^ 64 - 1 - a)) = true := by
  refine slt_tagged (Nat.sub_le_sub_left hw c) (fun ht => ?_)
  obtain rfl : wa = wb := by omega
  rw [compl_mod _ b h8 hb, compl_mod _ a h8 (by omega)]
  exact ⟨rfl, by omega⟩

theorem uvarintAsc_mono (a b : Nat) (hb : b < 2 ^ 64) (h : a < b) :
    slt (uvarintAsc a) (uvarintAsc b) = true := by
  have hpb := uwidth_range b
  unfold uvarintAsc intSmall intZero IntMax
  by_cases h2 : b ≤ 109
  · rw [if_pos h2, if_pos (by omega)]
    exact slt_of_head_lt (by omega) _ _
  rw [if_neg h2]
  by_cases h1 : a ≤ 109
  · rw [if_pos h1]
    exact slt_of_head_lt (by omega) _ _
  · rw [if_neg h1]
    have hm := uwidth_mono a b (Nat.le_of_lt h)
    refine slt_tagged (by omega) (fun ht => ?_)
    have hw : uwidth a = uwidth b := by omega
    have hbb := uwidth_bound b hb
    rw [hw, Nat.mod_eq_of_lt (Nat.lt_trans h hbb), Nat.mod_eq_of_lt hbb]
    exact ⟨rfl, h⟩

theorem inot_anti (a b : Int) : a < b ↔ inot b < inot a := by unfold inot; omega

theorem inot_lower {v : Int} (h : v < 2 ^ 63) : -(2 ^ 63) ≤ inot v := by unfold inot; omega

theorem inot_upper {v : Int} (h : -(2 ^ 63) ≤ v) : inot v < 2 ^ 63 := by unfold inot; omega

theorem inot_inot (v : Int) : inot (inot v) = v := by unfold inot; omega

theorem varintAsc_mono (a b : Int) (ha : -(2 ^ 63) ≤ a) (hb : b < 2 ^ 63) (h : a < b) :
    slt (varintAsc a) (varintAsc b) = true := by
  by_cases h1 : a < 0
  · obtain ⟨m, rfl⟩ := Int.eq_negSucc_of_lt_zero h1
    have hp := uwidth_range (m + 1)
    rw [varintAsc_negSucc m (by omega)]
    by_cases h2 : b < 0
    · obtain ⟨n, rfl⟩ := Int.eq_negSucc_of_lt_zero h2
      rw [varintAsc_negSucc n (by omega)]
      exact slt_tagged_compl (by omega) (uwidth_mono _ _ (by omega)) (by simp only [IntMin]; omega) hp.2
        (Nat.lt_of_succ_lt (uwidth_bound _ (by omega)))
    · obtain ⟨t, w, e, ht, _⟩ := uvarintAsc_form b.toNat
      rw [varintAsc, if_neg h2, e]
      exact slt_of_head_lt (by simp only [IntMin, intZero] at ht ⊢; omega) _ _
  · rw [varintAsc, varintAsc, if_neg h1, if_neg (by omega)]
    exact uvarintAsc_mono _ _ (by omega) (by omega)

theorem varintDesc_anti (a b : Int) (ha : -(2 ^ 63) ≤ a) (hb : b < 2 ^ 63) (h : a < b) :
    slt (varintDesc b) (varintDesc a) = true :=
  varintAsc_mono _ _ (inot_lower hb) (inot_upper ha) ((inot_anti a b).mp h)

theorem uvarintDesc_anti (a b : Nat) (hb : b < 2 ^ 64) (h : a < b) :
    slt (uvarintDesc b) (uvarintDesc a) = true := by
  unfold uvarintDesc
  have hpb := uwidth_range b
  rw [if_neg (by omega)]
  by_cases ha0 : a = 0
  · rw [if_pos ha0]
    exact slt_of_head_lt (by simp only [IntMin]; omega) _ _
  · rw [if_neg ha0]
    exact slt_tagged_compl h (uwidth_mono a b (Nat.le_of_lt h)) (by simp only [IntMin]; omega) hpb.2
      (uwidth_bound b hb)

theorem length_be_append_not_lt (w x : Nat) (r : Bytes) : ¬ (be w x ++ r).length < w := by
  rw [List.length_append, be_length]; omega

theorem dec_uvarintAsc (v : Nat) (hv : v < 2 ^ 64) (r : Bytes) :
    decUvarintAsc (uvarintAsc v ++ r) = some (v, r) := by
  unfold uvarintAsc
  by_cases h1 : v ≤ intSmall
  · simp only [h1, if_true, List.cons_append, List.nil_append, decUvarintAsc, Int.natCast_add,
      Int.add_comm (intZero : Nat), Int.add_sub_cancel, Int.ofNat_le, Int.toNat_natCast]
    rw [if_neg (Int.not_lt.mpr (Int.natCast_nonneg v))]
  · have hp := uwidth_range v
    simp only [h1, if_false, List.cons_append, decUvarintAsc]
    have e1 : ¬ (((IntMax - 8 + uwidth v : Nat) : Int) - intZero ≤ intSmall) := by
      simp only [intZero, intSmall, IntMax]; omega
    have e2 : (((IntMax - 8 + uwidth v : Nat) : Int) - intZero - intSmall).toNat = uwidth v := by
      simp only [intZero, intSmall, IntMax]; omega
    have e3 : ¬ (uwidth v > 8) := by omega
    simp only [e1, if_false, e2, e3, length_be_append_not_lt, List.take_left' (be_length _ _),
      List.drop_left' (be_length _ _), beVal_be]
    rw [Nat.mod_eq_of_lt (uwidth_bound v hv)]

/-- the tag of a complemented payload of `w` bytes, as the decoders read it -/
theorem intZero_sub_tag (w : Nat) (hw : w ≤ 8) : ((intZero : Nat) : Int) - ((IntMin + 8 - w : Nat) : Int) = w := by
  simp only [intZero, IntMin]; omega

theorem dec_uvarintDesc (v : Nat) (hv : v < 2 ^ 64) (r : Bytes) :
    decUvarintDesc (uvarintDesc v ++ r) = some (v, r) := by
  unfold uvarintDesc
  by_cases h0 : v = 0
  · subst h0
    simp [decUvarintDesc, beVal]
  · have hp := uwidth_range v
    simp only [h0, if_false, List.cons_append, decUvarintDesc, intZero_sub_tag _ hp.2, Int.toNat_natCast]
    rw [if_neg (by omega)]
    simp only [length_be_append_not_lt, if_false, List.take_left' (be_length _ _), List.drop_left' (be_length _ _),
      beVal_compl_not _ v hp.2 (uwidth_bound v hv)]

theorem wrap64_id (x : Int) (hl : -(2 ^ 63) ≤ x) (hu : x < 2 ^ 63) : wrap64 x = x := by
  unfold wrap64
  rw [Int.emod_eq_of_lt (by omega) (by omega)]
  omega

theorem dec_varintAsc (v : Int) (hl : -(2 ^ 63) ≤ v) (hu : v < 2 ^ 63) (r : Bytes) :
    decVarintAsc (varintAsc v ++ r) = some (v, r) := by
  by_cases h0 : v < 0
  · obtain ⟨n, rfl⟩ := Int.eq_negSucc_of_lt_zero h0
    have hp := uwidth_range (n + 1)
    have ht := intZero_sub_tag _ hp.2
    rw [varintAsc_negSucc n (by omega)]
    simp only [List.cons_append, decVarintAsc]
    rw [if_pos (by omega)]
    simp only [Int.neg_sub, ht, Int.toNat_natCast, length_be_append_not_lt, if_false, List.take_left' (be_length _ _),
      List.drop_left' (be_length _ _),
      beVal_compl_not _ _ hp.2 (Nat.lt_of_succ_lt (uwidth_bound _ (by omega)))]
    rw [show inot (n : Int) = Int.negSucc n by unfold inot; omega, wrap64_id _ hl hu]
  · obtain ⟨t, w, e, ht, _⟩ := uvarintAsc_form v.toNat
    have hdec := dec_uvarintAsc v.toNat (by omega) r
    rw [varintAsc, if_neg h0]
    rw [e, List.cons_append] at hdec ⊢
    have ht' : ¬ ((t : Int) - (intZero : Nat) < 0) := by omega
    simp only [decVarintAsc, ht', if_false, hdec]
    rw [if_neg (by omega), Int.toNat_of_nonneg (by omega)]

theorem dec_varintDesc (v : Int) (hl : -(2 ^ 63) ≤ v) (hu : v < 2 ^ 63) (r : Bytes) :
    decVarintDesc (varintDesc v ++ r) = some (v, r) := by
  unfold decVarintDesc varintDesc
  rw [dec_varintAsc (inot v) (inot_lower hu) (inot_upper hl) r]
  simp [inot_inot]

end Defra.Enc
