import DefraModel.Proofs.Lookup

/-! Array and composite indexes: the unique-index invariant, an entry for every document in every index, and the index
    path of a read against the scan. -/
namespace Defra.IndexMulti
open Defra Defra.Query

/-- two documents share a key without nil component -/
def Shares (fs : List String) (a b : MDoc) : Prop := ∃ key, key ∈ nonNilKeys a fs ∧ key ∈ nonNilKeys b fs

theorem Shares.symm {fs : List String} {a b : MDoc} (h : Shares fs a b) : Shares fs b a := by
  obtain ⟨k, h1, h2⟩ := h; exact ⟨k, h2, h1⟩

theorem conflicts_iff (fs : List String) (d : MDoc) (others : List MDoc) :
    conflicts fs d others = true ↔ ∃ o ∈ others, o.k ≠ d.k ∧ Shares fs d o := by
  unfold conflicts Shares
  simp only [List.any_eq_true, Bool.and_eq_true, bne_iff_ne, ne_eq, List.contains_iff_mem]

theorem rejectedBy_iff (s : St) (d : MDoc) :
    rejectedBy s d = true ↔ ∃ fs ∈ s.uniq, ∃ o ∈ s.docs, o.k ≠ d.k ∧ Shares fs d o := by
  simp only [rejectedBy, List.any_eq_true, conflicts_iff]

/-- identifiers are distinct and no two live documents share a non-nil key of any unique index -/
def UInv (s : St) : Prop :=
  (s.docs.map (·.k)).Nodup ∧
  ∀ fs ∈ s.uniq, ∀ a ∈ s.docs, ∀ b ∈ s.docs, a.k ≠ b.k → ¬ Shares fs a b

theorem not_rejected {s : St} {d : MDoc} (h : rejectedBy s d = false) :
    ∀ fs ∈ s.uniq, ∀ o ∈ s.docs, o.k ≠ d.k → ¬ Shares fs d o := by
  intro fs hfs o ho hk hs
  have := (rejectedBy_iff s d).mpr ⟨fs, hfs, o, ho, hk, hs⟩
  rw [h] at this; cases this

theorem uinv_accept {s : St} {d : MDoc} {docs : List MDoc} (h : UInv s) (hrej : rejectedBy s d = false)
    (hn : (docs.map (·.k)).Nodup) (hsub : ∀ a ∈ docs, a ∈ s.docs ∨ a = d) : UInv { s with docs := docs } := by
  refine ⟨hn, fun fs hfs a ha b hb hk => ?_⟩
  rcases hsub a ha with ha | rfl <;> rcases hsub b hb with hb | rfl
  · exact h.2 fs hfs a ha b hb hk
  · exact fun hs => not_rejected hrej fs hfs a ha hk hs.symm
  · exact not_rejected hrej fs hfs b hb (Ne.symm hk)
  · exact absurd rfl hk

theorem map_k_replace (docs : List MDoc) (d : MDoc) :
    (docs.map (fun o => if o.k == d.k then d else o)).map (·.k) = docs.map (·.k) := by
  rw [List.map_map]
  refine List.map_congr_left fun o _ => ?_
  simp only [Function.comp]
  split
  · rename_i h; exact (beq_iff_eq.mp h).symm
  · rfl

theorem step_inv (s : St) (op : Op) (h : UInv s) : UInv (step s op).1 := by
  cases op with
  | create d =>
    simp only [step]
    by_cases hnew : s.docs.any (·.k == d.k) = true
    · rw [if_pos hnew]; exact h
    rw [if_neg hnew]
    by_cases hrej : rejectedBy s d = true
    · rw [if_pos hrej]; exact h
    rw [if_neg hrej]
    exact uinv_accept h (by simpa using hrej) (Lookup.nodup_map_append h.1 hnew) (by simp)
  | update d =>
    simp only [step]
    by_cases hold : (!s.docs.any (·.k == d.k)) = true
    · rw [if_pos hold]; exact h
    rw [if_neg hold]
    by_cases hrej : rejectedBy s d = true
    · rw [if_pos hrej]; exact h
    rw [if_neg hrej]
    refine uinv_accept h (by simpa using hrej) (by rw [map_k_replace]; exact h.1) ?_
    simp only [List.mem_map]
    rintro _ ⟨o, ho, rfl⟩
    by_cases ho' : (o.k == d.k) = true
    · exact .inr (if_pos ho')
    · exact .inl (if_neg ho' ▸ ho)
  | delete k =>
    exact ⟨(List.filter_sublist.map _).nodup h.1,
      fun fs hfs a ha b hb => h.2 fs hfs a (List.mem_filter.mp ha).1 b (List.mem_filter.mp hb).1⟩
  | addUnique fs =>
    simp only [step]
    by_cases hno : s.docs.any (fun d => conflicts fs d s.docs) = true
    · rw [if_pos hno]; exact h
    rw [if_neg hno]
    refine ⟨h.1, fun fs' hfs' a ha b hb hk hs => ?_⟩
    rcases List.mem_append.mp hfs' with h' | h'
    · exact h.2 fs' h' a ha b hb hk hs
    · obtain rfl := List.mem_singleton.mp h'
      exact hno (List.any_eq_true.mpr ⟨a, ha, (conflicts_iff _ a s.docs).mpr ⟨b, hb, Ne.symm hk, hs⟩⟩)

theorem run_inv (s : St) (ops : List Op) (h : UInv s) : UInv (ops.foldl (fun s op => (step s op).1) s) :=
  List.foldlRecOn ops _ h fun s hs op _ => step_inv s op hs

theorem mem_dedupV : ∀ (l : List V) (x : V), x ∈ dedupV l ↔ x ∈ l
  | [], x => by simp [dedupV]
  | y :: ys, x => by
    unfold dedupV
    have ih := mem_dedupV ys
    split
    · rename_i hc
      have hy : y ∈ ys := (ih y).mp (by simpa using hc)
      rw [ih x, List.mem_cons]
      exact ⟨.inr, fun h => h.elim (fun e => e ▸ hy) id⟩
    · rw [List.mem_cons, List.mem_cons, ih x]

theorem dedupV_ne_nil (l : List V) (h : l ≠ []) : dedupV l ≠ [] := by
  obtain ⟨x, hx⟩ := List.exists_mem_of_ne_nil l h
  exact List.ne_nil_of_mem ((mem_dedupV l x).mpr hx)

theorem mem_keysOf_cons (d : MDoc) (f : String) (fs : List String) (key : List V) :
    key ∈ keysOf d (f :: fs) ↔ ∃ v ∈ fieldVals d f, ∃ rest ∈ keysOf d fs, key = v :: rest := by
  simp only [keysOf, List.mem_flatMap, List.mem_map, eq_comm]

theorem fieldVals_ne_nil (d : MDoc) (f : String) : fieldVals d f ≠ [] := by
  unfold fieldVals
  split
  · split
    · simp
    · rename_i l _
      split
      · simp
      · rename_i hne
        exact dedupV_ne_nil l (by intro h; apply hne; rw [h]; rfl)
  · simp

theorem keysOf_ne_nil (d : MDoc) : ∀ (fs : List String), keysOf d fs ≠ []
  | [] => by simp [keysOf]
  | f :: fs => by
    obtain ⟨v, hv⟩ := List.exists_mem_of_ne_nil _ (fieldVals_ne_nil d f)
    obtain ⟨r, hr⟩ := List.exists_mem_of_ne_nil _ (keysOf_ne_nil d fs)
    exact List.ne_nil_of_mem ((mem_keysOf_cons d f fs _).mpr ⟨v, hv, r, hr, rfl⟩)

theorem key_with_head (d : MDoc) (f0 : String) (rest : List String) (x : V) (hx : x ∈ fieldVals d f0) :
    ∃ key ∈ keysOf d (f0 :: rest), key.headD .null = x := by
  obtain ⟨r, hr⟩ := List.exists_mem_of_ne_nil _ (keysOf_ne_nil d rest)
  exact ⟨x :: r, (mem_keysOf_cons d f0 rest _).mpr ⟨x, hx, r, hr, rfl⟩, rfl⟩

theorem find_of_mem_nodup (docs : List MDoc) (hn : (docs.map (·.k)).Nodup) (d : MDoc) (hd : d ∈ docs) :
    docs.find? (·.k == d.k) = some d :=
  ListLemmas.find?_key_of_nodup (·.k) hn hd

theorem mem_entries (fields : List String) (docs : List MDoc) (key : List V) (k : Nat) :
    (key, k) ∈ entries fields docs ↔ ∃ d ∈ docs, d.k = k ∧ key ∈ keysOf d fields := by
  unfold entries
  simp only [List.mem_flatMap, List.mem_map, Prod.mk.injEq]
  constructor
  · rintro ⟨d, hd, key', hk, rfl, rfl⟩; exact ⟨d, hd, rfl, hk⟩
  · rintro ⟨d, hd, rfl, hk⟩; exact ⟨d, hd, key, hk, rfl, rfl⟩

theorem indexFetch_perm_eval (fields : List String) (cand : List V → Bool) (f : Filter) (docs : List MDoc)
    (hn : (docs.map (·.k)).Nodup)
    (hcomplete : ∀ d ∈ docs, satisfies f d = true → ∃ key ∈ keysOf d fields, cand key = true) :
    (indexFetch fields cand f docs).Perm (eval f docs) := by
  unfold indexFetch eval
  have hfind : ∀ k d, docs.find? (·.k == k) = some d → d.k = k := fun k d h => by simpa using List.find?_some h
  refine (Lookup.refilter_perm _ (ListLemmas.nodup_of_map _ hn) (ListLemmas.nodup_of_map (·.k) ?_) ?_ ?_).map _
  · exact (Lookup.lookup_keys_sublist _ _ hfind _).nodup (nodup_dedupSeen _ _)
  · intro d hd
    obtain ⟨k, -, hk⟩ := List.mem_filterMap.mp hd
    exact List.mem_of_find?_eq_some hk
  · intro d hd hs
    obtain ⟨key, hkey, hc⟩ := hcomplete d hd hs
    refine List.mem_filterMap.mpr
      ⟨d.k, (mem_dedupSeen _ _ _).mpr ⟨?_, List.not_mem_nil⟩, find_of_mem_nodup docs hn d hd⟩
    exact List.mem_map.mpr
      ⟨(key, d.k), List.mem_filter.mpr ⟨(mem_entries _ _ _ _).mpr ⟨d, hd, rfl, hkey⟩, hc⟩, rfl⟩

/-! ### candidate completeness for `_eq` on the leading scalar field and `_any: {_eq}` on the leading array field -/

theorem holds_of_satisfies {conj : List Atom} {d : MDoc} (hs : satisfies [conj] d = true) {a : Atom}
    (ha : a ∈ conj) : a.holds d = true := by
  simp only [satisfies, List.any_cons, List.any_nil, Bool.or_false, List.all_eq_true] at hs
  exact hs a ha

theorem leading_eq_complete (f0 : String) (rest : List String) (v : V) (conj : List Atom)
    (hin : Atom.sc f0 .eq [v] ∈ conj) (hsc : isArrayField f0 = false) (d : MDoc)
    (hs : satisfies [conj] d = true) :
    ∃ key ∈ keysOf d (f0 :: rest), vEq v (key.headD .null) = true := by
  have hfv : d.scalar f0 ∈ fieldVals d f0 := by simp [fieldVals, hsc]
  obtain ⟨key, hk, hh⟩ := key_with_head d f0 rest _ hfv
  exact ⟨key, hk, hh ▸ holds_of_satisfies hs hin⟩

theorem leading_any_eq_complete (f0 : String) (rest : List String) (v : V) (conj : List Atom)
    (hin : Atom.arr f0 .any .eq [v] ∈ conj) (harr : isArrayField f0 = true) (d : MDoc)
    (hs : satisfies [conj] d = true) :
    ∃ key ∈ keysOf d (f0 :: rest), vEq v (key.headD .null) = true := by
  have ha := holds_of_satisfies hs hin
  simp only [Atom.holds] at ha
  cases hl : d.array f0 with
  | none => simp [hl] at ha
  | some l =>
    simp only [hl, List.any_eq_true, cmp, List.headD_cons] at ha
    obtain ⟨e, he, hve⟩ := ha
    have hne : l.isEmpty = false := by cases l with | nil => cases he | cons _ _ => rfl
    have hfv : e ∈ fieldVals d f0 := by
      simp only [fieldVals, harr, if_true, hl, hne, Bool.false_eq_true, if_false]
      exact (mem_dedupV l e).mpr he
    obtain ⟨key, hk, hh⟩ := key_with_head d f0 rest e hfv
    exact ⟨key, hk, hh ▸ hve⟩

end Defra.IndexMulti
