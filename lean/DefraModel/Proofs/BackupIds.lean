import DefraModel.Backup
/-! `ids` computes every identifier from the identifiers before it; since the fold only appends, an identifier once
    computed stays where it is, which is all `ids_spec` needs. -/
namespace Defra.Backup

theorem ids_fold_eq_append {ι : Type} (H : Nat → Option ι → ι) : ∀ (ds : List D) (acc : List ι),
    ∃ t, ds.foldl (fun acc d => acc ++ [H d.content (d.ref.bind (fun j => acc[j]?))]) acc = acc ++ t ∧
      t.length = ds.length
  | [], acc => ⟨[], (List.append_nil acc).symm, rfl⟩
  | d :: ds, acc => by
    obtain ⟨t, ht, hl⟩ := ids_fold_eq_append H ds (acc ++ [H d.content (d.ref.bind (fun j => acc[j]?))])
    exact ⟨_ :: t, by rw [List.foldl_cons, ht, List.append_assoc]; rfl, congrArg (· + 1) hl⟩

theorem ids_spec {ι : Type} (H : Nat → Option ι → ι) (docs : List D)
    (hback : ∀ (i : Nat) (d : D), docs[i]? = some d → ∀ j, d.ref = some j → j < i) :
    ∀ (i : Nat) (d : D), docs[i]? = some d →
      (ids H docs)[i]? = some (H d.content (d.ref.bind (fun j => (ids H docs)[j]?))) := by
  intro i d h
  obtain ⟨hi, rfl⟩ := List.getElem?_eq_some_iff.mp h
  -- the identifiers `a` of the documents before `i`, then that of `docs[i]`, then the rest `t`
  have e : ids H docs = (docs.take i ++ docs[i] :: docs.drop (i + 1)).foldl
      (fun acc d => acc ++ [H d.content (d.ref.bind (fun j => acc[j]?))]) [] := by
    rw [← List.drop_eq_getElem_cons hi, List.take_append_drop]; cases docs <;> rfl
  rw [List.foldl_append, List.foldl_cons] at e
  obtain ⟨a, ha, hal⟩ := ids_fold_eq_append H (docs.take i) []
  obtain ⟨t, ht, -⟩ := ids_fold_eq_append H (docs.drop (i + 1)) ((docs.take i).foldl _ [] ++ [_])
  rw [ht, ha, List.nil_append] at e
  have hai : a.length = i := by rw [hal, List.length_take, Nat.min_eq_left (Nat.le_of_lt hi)]
  rw [e, List.append_assoc, List.getElem?_append_right (Nat.le_of_eq hai), hai, Nat.sub_self]
  refine congrArg (fun o => some (H docs[i].content o)) ?_
  cases hr : docs[i].ref with
  | none => rfl
  | some j => exact (List.getElem?_append_left (hai ▸ hback i _ h j hr)).symm

end Defra.Backup
