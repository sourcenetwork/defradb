import DefraModel.Crdt.Model
import DefraModel.Proofs.BytesLemmas

/-!
Why the order of application does not matter: every component of `Vals` is an `Option` over a commutative semigroup
(marker with `||`, register with `lwwMax`, counter with `+`) and a block merges (`Option.merge`) what it contributes
into one component. Hence what a fold of `applyDelta` leaves in each component: a counter the sum, the marker a
disjunction, a register the (height, bytes)-greatest value written.
-/
namespace Defra.Crdt
open Defra.Bytes

def ple (a b : Nat × Bytes) : Prop := a.1 < b.1 ∨ (a.1 = b.1 ∧ Bytes.lt b.2 a.2 = false)

theorem ple_refl (a : Nat × Bytes) : ple a a := Or.inr ⟨rfl, lt_irrefl _⟩

theorem ple_total (a b : Nat × Bytes) : ple a b ∨ ple b a := by
  unfold ple
  rcases Nat.lt_trichotomy a.1 b.1 with h | h | h
  · exact Or.inl (Or.inl h)
  · cases hl : Bytes.lt b.2 a.2
    · exact Or.inl (Or.inr ⟨h, rfl⟩)
    · exact Or.inr (Or.inr ⟨h.symm, lt_asymm _ _ hl⟩)
  · exact Or.inr (Or.inl h)

theorem ple_trans (a b c : Nat × Bytes) (h1 : ple a b) (h2 : ple b c) : ple a c := by
  rcases h1 with h1 | ⟨e1, l1⟩ <;> rcases h2 with h2 | ⟨e2, l2⟩
  · exact Or.inl (by omega)
  · exact Or.inl (by omega)
  · exact Or.inl (by omega)
  · exact Or.inr ⟨by omega, Bytes.le_trans l1 l2⟩

theorem ple_antisymm (a b : Nat × Bytes) (h1 : ple a b) (h2 : ple b a) : a = b := by
  obtain ⟨e, l1⟩ := h1.resolve_left fun h => h2.elim (fun h' => Nat.lt_asymm h h') fun h' => Nat.ne_of_gt h h'.1
  exact Prod.ext e (Bytes.le_antisymm l1 (h2.resolve_left fun h => Nat.ne_of_gt h e).2)

theorem lwwMax_spec (a b : Nat × Bytes) : (ple a b → lwwMax a b = b) ∧ (ple b a → lwwMax a b = a) := by
  unfold lwwMax
  constructor
  · rintro (h | ⟨e, l⟩)
    · rw [if_pos h]
    · rw [if_neg (by omega), if_pos e]
      split
      · rfl
      · rename_i hab
        exact Prod.ext e (Bytes.le_antisymm l (by simpa using hab))
  · rintro (h | ⟨e, l⟩)
    · rw [if_neg (by omega), if_neg (by omega)]
    · rw [if_neg (by omega), if_pos e.symm, l]; rfl

theorem lwwMax_comm (a b : Nat × Bytes) : lwwMax a b = lwwMax b a := by
  rcases ple_total a b with h | h
  · rw [(lwwMax_spec a b).1 h, (lwwMax_spec b a).2 h]
  · rw [(lwwMax_spec a b).2 h, (lwwMax_spec b a).1 h]

theorem lwwMax_idem (a : Nat × Bytes) : lwwMax a a = a := (lwwMax_spec a a).1 (ple_refl a)

theorem lwwMax_eq_or (a b : Nat × Bytes) : lwwMax a b = a ∨ lwwMax a b = b := by
  rcases ple_total a b with h | h
  · exact Or.inr ((lwwMax_spec a b).1 h)
  · exact Or.inl ((lwwMax_spec a b).2 h)

theorem ple_lwwMax_left (a b : Nat × Bytes) : ple a (lwwMax a b) := by
  rcases ple_total a b with h | h
  · rw [(lwwMax_spec a b).1 h]; exact h
  · rw [(lwwMax_spec a b).2 h]; exact ple_refl a

theorem lwwMax_assoc (a b c : Nat × Bytes) : lwwMax (lwwMax a b) c = lwwMax a (lwwMax b c) := by
  rcases ple_total a b with hab | hab <;> rcases ple_total b c with hbc | hbc
  · rw [(lwwMax_spec a b).1 hab, (lwwMax_spec b c).1 hbc, (lwwMax_spec a c).1 (ple_trans _ _ _ hab hbc)]
  · rw [(lwwMax_spec a b).1 hab, (lwwMax_spec b c).2 hbc, (lwwMax_spec a b).1 hab]
  · rw [(lwwMax_spec a b).2 hab, (lwwMax_spec b c).1 hbc]
  · rw [(lwwMax_spec a b).2 hab, (lwwMax_spec b c).2 hbc, (lwwMax_spec a b).2 hab,
        (lwwMax_spec a c).2 (ple_trans _ _ _ hbc hab)]

theorem lwwMerge_some (cur : Nat × Bytes) (p : Nat) (v : Bytes) :
    lwwMerge (some cur) p v = lwwMax cur (p, v) := by
  unfold lwwMerge lwwMax
  simp only
  rcases Nat.lt_trichotomy p cur.1 with h | h | h
  · rw [if_pos h, if_neg (Nat.lt_asymm h), if_neg (Nat.ne_of_gt h)]
  · subst h
    rw [if_neg (Nat.lt_irrefl _), if_pos rfl, if_neg (Nat.lt_irrefl _), if_pos rfl]
  · rw [if_neg (Nat.lt_asymm h), if_neg (Nat.ne_of_gt h), if_pos h]

/-- the increment a block contributes to counter `f` -/
def ctrOf (f : String) (b : Block) : Int :=
  match b.kind, b.delta with
  | .field g, .ctr i => if g = f then i else 0
  | _, _ => 0

/-- the (height, value) a block writes to register `f`, if any -/
def lwwOf (f : String) (b : Block) : Option (Nat × Bytes) :=
  match b.kind, b.delta with
  | .field g, .lww v => if g = f then some (b.height, v) else none
  | _, _ => none

def isDelete (b : Block) : Bool := b.kind == .comp && b.delta == .comp true

/-- `ctrOf` with `none` for "no increment": an increment by 0 creates the counter, so the two differ in the state -/
def incOf (f : String) (b : Block) : Option Int :=
  match b.kind, b.delta with
  | .field g, .ctr i => if g = f then some i else none
  | _, _ => none

theorem ctrOf_eq (f : String) (b : Block) : ctrOf f b = (incOf f b).getD 0 := by
  unfold ctrOf incOf
  cases b.kind <;> cases b.delta <;> simp
  split <;> rfl

/-- the deleted flag of a composite block; `markerOf b m` of CrdtMergeDoc is `m.merge (· || ·) (markOf b)` for a
    composite `b` -/
def markOf (b : Block) : Option Bool :=
  match b.kind, b.delta with
  | .comp, .comp d => some d
  | _, _ => none

theorem isDelete_iff (b : Block) : isDelete b = true ↔ markOf b = some true := by
  unfold isDelete markOf
  cases b.kind <;> cases b.delta <;> simp

@[simp] theorem FMap.set_apply {β : Type} (m : FMap β) (k x : String) (v : β) :
    (m.set k v) x = if x = k then some v else m x := rfl

theorem markerMerge_eq (m : Option Bool) (d : Bool) : markerMerge m d = m.merge (· || ·) (some d) := by
  rcases m with _ | _ | _ <;> cases d <;> rfl

theorem lwwMerge_eq (cur : Option (Nat × Bytes)) (p : Nat) (v : Bytes) :
    some (lwwMerge cur p v) = cur.merge lwwMax (some (p, v)) := by
  cases cur with
  | none => rfl
  | some c => rw [lwwMerge_some]; rfl

theorem applyDelta_marker (s : Vals) (b : Block) :
    (applyDelta s b).marker = s.marker.merge (· || ·) (markOf b) := by
  unfold applyDelta markOf
  cases b.kind <;> cases b.delta <;> simp [markerMerge_eq]

theorem applyDelta_lww (s : Vals) (b : Block) (f : String) :
    (applyDelta s b).lww f = (s.lww f).merge lwwMax (lwwOf f b) := by
  unfold applyDelta lwwOf
  cases b.kind <;> cases b.delta <;> simp
  case field.lww g v =>
    by_cases h : f = g
    · subst h; simp [lwwMerge_eq]
    · simp [h, Ne.symm h]

theorem applyDelta_ctr (s : Vals) (b : Block) (f : String) :
    (applyDelta s b).ctr f = (s.ctr f).merge (· + ·) (incOf f b) := by
  unfold applyDelta incOf
  cases b.kind <;> cases b.delta <;> simp
  case field.ctr g i =>
    by_cases h : f = g
    · subst h; cases s.ctr f <;> simp
    · simp [h, Ne.symm h]

theorem merge_right_comm {α : Type} (op : α → α → α) (assoc : ∀ a b c, op (op a b) c = op a (op b c))
    (comm : ∀ a b, op a b = op b a) (x a b : Option α) :
    (x.merge op a).merge op b = (x.merge op b).merge op a := by
  cases x <;> cases a <;> cases b <;>
    simp only [Option.merge_none_left, Option.merge_none_right, Option.merge_some_some, Option.some.injEq]
  · exact comm _ _
  · rename_i x a b; rw [assoc, assoc, comm a b]

theorem Vals.ext {s t : Vals} (h1 : s.marker = t.marker) (h2 : ∀ f, s.lww f = t.lww f) (h3 : ∀ f, s.ctr f = t.ctr f) :
    s = t := by
  cases s; cases t
  simp only [Vals.mk.injEq]
  exact ⟨h1, funext h2, funext h3⟩

theorem applyDelta_comm (s : Vals) (a b : Block) :
    applyDelta (applyDelta s a) b = applyDelta (applyDelta s b) a := by
  apply Vals.ext
  · simp only [applyDelta_marker]
    exact merge_right_comm _ Bool.or_assoc Bool.or_comm _ _ _
  · intro f
    simp only [applyDelta_lww]
    exact merge_right_comm _ lwwMax_assoc lwwMax_comm _ _ _
  · intro f
    simp only [applyDelta_ctr]
    exact merge_right_comm _ Int.add_assoc Int.add_comm _ _ _

theorem foldl_applyDelta_perm (s : Vals) (l₁ l₂ : List Block) (p : l₁.Perm l₂) :
    l₁.foldl applyDelta s = l₂.foldl applyDelta s :=
  List.Perm.foldl_eq' p (fun x _ y _ z => applyDelta_comm z x y) s

theorem getD_merge_add (x o : Option Int) : (x.merge (· + ·) o).getD 0 = x.getD 0 + o.getD 0 := by
  cases x <;> cases o <;> simp

theorem foldl_ctr (l : List Block) (s : Vals) (f : String) :
    ((l.foldl applyDelta s).ctr f).getD 0 = (s.ctr f).getD 0 + (l.map (ctrOf f)).sum := by
  induction l generalizing s with
  | nil => simp
  | cons b l ih =>
    rw [List.foldl_cons, ih, applyDelta_ctr, getD_merge_add, List.map_cons, List.sum_cons, ctrOf_eq]
    omega

theorem merge_or_true (m o : Option Bool) : m.merge (· || ·) o = some true ↔ m = some true ∨ o = some true := by
  cases m <;> cases o <;> simp

theorem foldl_marker (l : List Block) (s : Vals) :
    (l.foldl applyDelta s).marker = some true ↔ (s.marker = some true ∨ ∃ b ∈ l, isDelete b = true) := by
  induction l generalizing s with
  | nil => simp
  | cons b l ih =>
    simp only [List.foldl_cons, ih, applyDelta_marker, merge_or_true, List.mem_cons, exists_eq_or_imp,
      isDelete_iff, or_assoc]

theorem ple_merge (x o : Option (Nat × Bytes)) (c : Nat × Bytes) (h : x = some c ∨ o = some c) :
    ∃ r, x.merge lwwMax o = some r ∧ ple c r := by
  rcases h with rfl | rfl
  · cases o with
    | none => exact ⟨c, rfl, ple_refl c⟩
    | some d => exact ⟨_, rfl, ple_lwwMax_left c d⟩
  · cases x with
    | none => exact ⟨c, rfl, ple_refl c⟩
    | some d => exact ⟨_, rfl, lwwMax_comm d c ▸ ple_lwwMax_left c d⟩

theorem foldl_lww_upper (l : List Block) (s : Vals) (f : String) :
    (∀ b ∈ l, ∀ x, lwwOf f b = some x → ∃ r, (l.foldl applyDelta s).lww f = some r ∧ ple x r) ∧
    (∀ c, s.lww f = some c → ∃ r, (l.foldl applyDelta s).lww f = some r ∧ ple c r) := by
  induction l generalizing s with
  | nil => exact ⟨fun _ h => (by cases h), fun c h => ⟨c, h, ple_refl c⟩⟩
  | cons b l ih =>
    obtain ⟨ih1, ih2⟩ := ih (applyDelta s b)
    -- both are below the register after the head block, hence below the end
    have step : ∀ c, s.lww f = some c ∨ lwwOf f b = some c →
        ∃ r, ((b :: l).foldl applyDelta s).lww f = some r ∧ ple c r := by
      intro c hc
      obtain ⟨m, hm, hcm⟩ := ple_merge _ _ c hc
      obtain ⟨r, hr, hmr⟩ := ih2 m (by rw [applyDelta_lww, hm])
      exact ⟨r, hr, ple_trans _ _ _ hcm hmr⟩
    refine ⟨fun b' hb' x hx => ?_, fun c hc => step c (Or.inl hc)⟩
    rcases List.mem_cons.mp hb' with rfl | hb'
    · exact step x (Or.inr hx)
    · exact ih1 b' hb' x hx

theorem foldl_lww_mem (l : List Block) (s : Vals) (f : String) (r : Nat × Bytes)
    (h : (l.foldl applyDelta s).lww f = some r) :
    s.lww f = some r ∨ ∃ b ∈ l, lwwOf f b = some r := by
  induction l generalizing s with
  | nil => exact Or.inl h
  | cons b l ih =>
    rcases ih _ h with h' | ⟨b', hb', hx⟩
    · rw [applyDelta_lww] at h'
      rcases Option.merge_eq_or_eq lwwMax_eq_or (s.lww f) (lwwOf f b) with e | e
      · exact Or.inl (e ▸ h')
      · exact Or.inr ⟨b, List.mem_cons_self, e ▸ h'⟩
    · exact Or.inr ⟨b', List.mem_cons_of_mem _ hb', hx⟩

end Defra.Crdt
