import DefraModel.Crdt.Versioned
import DefraModel.Proofs.CrdtClosure

/-! The versioned read replays the stored ancestors of the requested commit and what they link, each once, and nothing
    else. -/
namespace Defra.Crdt

/-- from `before` to `after` (state, visited): a duplicate-free list of new identifiers is visited and the stored
    blocks among them are applied in that order -/
def Applies (bs : Blocks) (before after : Vals × List Nat) : Prop :=
  ∃ ids : List Nat,
    after.2 = before.2 ++ ids ∧
    after.1 = (ids.filterMap bs.get?).foldl applyDelta before.1 ∧
    (∀ i ∈ ids, i ∉ before.2) ∧
    ids.Nodup

theorem Applies.refl (bs : Blocks) (x : Vals × List Nat) : Applies bs x x :=
  ⟨[], by simp, rfl, by simp, by simp⟩

theorem Applies.trans {bs : Blocks} {a b c : Vals × List Nat} (h1 : Applies bs a b) (h2 : Applies bs b c) :
    Applies bs a c := by
  obtain ⟨i1, e1, s1, d1, n1⟩ := h1
  obtain ⟨i2, e2, s2, d2, n2⟩ := h2
  refine ⟨i1 ++ i2, ?_, ?_, ?_, ?_⟩
  · rw [e2, e1, List.append_assoc]
  · rw [s2, s1, List.filterMap_append, List.foldl_append]
  · intro i hi
    rcases List.mem_append.mp hi with h | h
    · exact d1 i h
    · intro hb; exact d2 i h (by rw [e1]; exact List.mem_append_left _ hb)
  · rw [List.nodup_append]
    refine ⟨n1, n2, ?_⟩
    intro a ha b hb e
    subst e
    exact d2 a hb (by rw [e1]; exact List.mem_append_right _ ha)

theorem applies_foldl {α : Type} (bs : Blocks) (f : (Vals × List Nat) → α → (Vals × List Nat))
    (hf : ∀ acc x, Applies bs acc (f acc x)) (l : List α) (acc : Vals × List Nat) :
    Applies bs acc (l.foldl f acc) := by
  induction l generalizing acc with
  | nil => exact Applies.refl bs acc
  | cons x l ih => exact Applies.trans (hf acc x) (ih (f acc x))

theorem vmerge_applies (bs : Blocks) (fuel : Nat) (acc : Vals × List Nat) (c : Nat) :
    Applies bs acc (vmerge bs fuel acc c) := by
  fun_induction vmerge bs fuel acc c with
  | case1 acc => exact Applies.refl bs acc
  | case2 fuel s merged c hc => exact Applies.refl bs _
  | case3 fuel s merged c hc hg => exact ⟨[c], rfl, by simp [hg], by simpa using hc, by simp⟩
  | case4 fuel s merged c hc b hg ih =>
    have step : Applies bs (s, merged) (applyDelta s b, merged ++ [c]) :=
      ⟨[c], rfl, by simp [hg], by simpa using hc, by simp⟩
    exact step.trans (applies_foldl bs _ ih b.links _)

theorem vmerge_closes (bs : Blocks) (fuel : Nat) (acc : Vals × List Nat) (c : Nat)
    (hfuel : unvisited bs acc.2 < fuel) :
    Closes (fun _ => True) (bs.out (·.links)) [c] acc.2 (vmerge bs fuel acc c).2 := by
  fun_induction vmerge bs fuel acc c with
  | case1 => omega
  | case2 fuel s merged c hc =>
    exact Closes.refl (fun r hr _ => by rw [List.mem_singleton.mp hr]; simpa using hc)
  | case3 fuel s merged c hc hg =>
    refine Closes.visit trivial ?_
    simp only [List.append_nil, Blocks.out, hg]
    exact Closes.refl (fun _ h => by cases h)
  | case4 fuel s merged c hc b hg ih =>
    refine Closes.visit trivial ?_
    rw [List.append_nil, Blocks.out_some hg]
    exact Closes.foldl Prod.snd _ (fun v => unvisited bs v < fuel)
      (fun v v' hv h => Nat.lt_of_le_of_lt (unvisited_mono bs v v' hv) h) (fun a l ha => ih a l ha) b.links
      (applyDelta s b, merged ++ [c])
      (by have := unvisited_lt bs merged c b hg (by simpa using hc); simp only at hfuel ⊢; omega)

/-- what a call of `vmerge` guarantees about the visited list -/
structure VPost (bs : Blocks) (c : Nat) (before after : List Nat) : Prop where
  vmono : ∀ x ∈ before, x ∈ after
  start : c ∈ after
  closed : ∀ x ∈ after, x ∉ before → ∀ b, bs.get? x = some b → ∀ l ∈ b.links, l ∈ after

theorem vmerge_post (bs : Blocks) (fuel : Nat) (acc : Vals × List Nat) (c : Nat) (h : unvisited bs acc.2 < fuel) :
    VPost bs c acc.2 (vmerge bs fuel acc c).2 :=
  have cl := vmerge_closes bs fuel acc c h
  ⟨cl.mono, cl.start c (List.mem_singleton.mpr rfl) trivial,
    fun x hx hnx b hb l hl => cl.closed x hx hnx l (by rw [Blocks.out_some hb]; exact hl) trivial⟩

theorem vmerge_queue_closes (bs : Blocks) (queue : List Block) (a : Vals × List Nat) :
    Closes (fun _ => True) (bs.out (·.links)) (queue.map (·.id)) a.2
      (queue.foldl (fun acc (b : Block) => vmerge bs (bs.length + 1) acc b.id) a).2 := by
  rw [← List.foldl_map]
  exact Closes.foldl Prod.snd _ (fun _ => True) (fun _ _ _ _ => trivial)
    (fun a r _ => vmerge_closes bs _ a r (Nat.lt_succ_of_le (List.length_filter_le _ _))) _ a trivial

/-- reachable through links -/
inductive LReach (bs : Blocks) (c : Nat) : Nat → Prop where
  | self : LReach bs c c
  | link {y l : Nat} {b : Block} : LReach bs c y → bs.get? y = some b → l ∈ b.links → LReach bs c l

theorem versionedVals_replays (bs : Blocks) (c : Nat) :
    ∃ (ids : List Nat), ids.Nodup ∧
      versionedVals bs c = (ids.filterMap bs.get?).foldl applyDelta {} ∧
      ∀ x, x ∈ ids ↔ ∃ q qb, bs.get? q = some qb ∧ Anc bs c q ∧ LReach bs q x := by
  unfold versionedVals
  generalize hq : sortByHeight ((seekQueue bs c).filterMap bs.get?) = queue
  have hmem : ∀ b, b ∈ queue ↔ ∃ i ∈ seekQueue bs c, bs.get? i = some b := fun b => by
    rw [← hq, (sortByHeight_perm _).mem_iff, List.mem_filterMap]
  obtain ⟨ids, hv, hs, _, hn⟩ := applies_foldl bs (fun acc (b : Block) => vmerge bs (bs.length + 1) acc b.id)
    (fun acc b => vmerge_applies bs (bs.length + 1) acc b.id) queue (({} : Vals), ([] : List Nat))
  have cl := vmerge_queue_closes bs queue (({} : Vals), ([] : List Nat))
  rw [hv, List.nil_append] at cl
  refine ⟨ids, hn, hs, fun x => ⟨cl.only (fun x => ∃ q qb, bs.get? q = some qb ∧ Anc bs c q ∧ LReach bs q x)
    (fun _ h => by cases h) ?_ ?_ x, ?_⟩⟩
  · intro r hr _
    obtain ⟨q, hq', rfl⟩ := List.mem_map.mp hr
    obtain ⟨i, hi, hgi⟩ := (hmem q).mp hq'
    rw [Blocks.get?_id hgi]
    exact ⟨i, q, hgi, seekQueue_sound bs c i hi, LReach.self⟩
  · intro y ⟨q, qb, h1, h2, hr⟩ z hz _
    obtain ⟨b, hg, hz⟩ := Blocks.mem_out.mp hz
    exact ⟨q, qb, h1, h2, hr.link hg hz⟩
  · rintro ⟨q, qb, hg, ⟨n, hp⟩, hr⟩
    induction hr with
    | self =>
      exact cl.start q (List.mem_map.mpr
        ⟨qb, (hmem qb).mpr ⟨q, seekQueue_complete bs c n q hp (by rw [hg]; rfl), hg⟩, Blocks.get?_id hg⟩) trivial
    | link _ hgy hl ih => exact cl.closed _ ih List.not_mem_nil _ (by rw [Blocks.out_some hgy]; exact hl) trivial

theorem replays_ancestors {bs : Blocks} {c : Nat} {ids : List Nat}
    (h : ∀ x, x ∈ ids ↔ ∃ q qb, bs.get? q = some qb ∧ Anc bs c q ∧ LReach bs q x)
    (n x : Nat) (b : Block) (hp : Path bs c x n) (hg : bs.get? x = some b) : x ∈ ids ∧ ∀ l ∈ b.links, l ∈ ids :=
  ⟨(h x).mpr ⟨x, b, hg, ⟨n, hp⟩, LReach.self⟩, fun l hl => (h l).mpr ⟨x, b, hg, ⟨n, hp⟩, LReach.link LReach.self hg hl⟩⟩

end Defra.Crdt
