/- The index key prefixes. `Val.Wf` lives in Props/C17, hence the import. -/
import DefraModel.Index.Range
import DefraModel.Proofs.PrefixEnd
import DefraModel.Props.C17
namespace Defra.Index
open Defra Defra.Enc Defra.Bytes Defra.Props.C17

theorem pe_base (col idx : Nat) : ∃ e, pe (baseKey col idx) = some e := by
  unfold baseKey; exact pe_cons_ne_ff 0x2f _ (by decide)

theorem pe_valueKey (col idx : Nat) (d : Bool) (v : Val) : ∃ e, pe (valueKey col idx d v) = some e := by
  unfold valueKey baseKey; exact pe_cons_ne_ff 0x2f _ (by decide)

/-- not for JSON: `Val.Wf` leaves the property names of a path free, so the key need not consist of bytes -/
theorem fieldValue_isBytes (d : Bool) (v : Val) (hv : Val.Wf v) (hj : ∀ p x, v ≠ .json p x) :
    IsBytes (fieldValue d v) := by
  cases v with
  | null => cases d <;> exact isBytes_cons (by decide) isBytes_nil
  | bool b => cases d <;> cases b <;> exact isBytes_cons (by decide) isBytes_nil
  | int i => cases d <;> exact varintAsc_isBytes _
  | f32 u => exact float_isBytes f32 f32_good d u
  | f64 u => exact float_isBytes f64 f64_good d u
  | str s =>
    cases d
    · exact isBytes_cons (by decide) (escaped_isBytes s hv)
    · exact isBytes_cons (by decide) (isBytes_compl _)
  | time s n => cases d <;> exact isBytes_cons (by decide) (isBytes_append (varintAsc_isBytes _) (varintAsc_isBytes _))
  | json p x => exact absurd rfl (hj p x)

end Defra.Index
