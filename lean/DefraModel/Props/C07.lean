/-
C07 — Secondary indexes never change what a query returns.
The index path is: candidates from a key range of the index (`createRangeBoundaries` / prefix / `_in` lookups)
→ value matchers → the COMPLETE filter re-applied to every fetched document (`filteredFetcher` wraps the index
fetcher, internal/db/fetcher/wrapper.go).  Hence (1) the candidate range is complete: every entry whose value
satisfies the condition lies in the scanned interval, in all eight operator × direction cases, from the order
embedding of C17; and (2) re-filtering a duplicate-free superset of the matching documents yields exactly them.
Index maintenance is proved for the model of `indexNewDoc`, `updateDocIndex`, `deleteIndexedDoc` and `CreateIndex` on a
populated collection (`Index/Maint.lean`); `drv query` keeps its entries with that model's `step`, and the raw index
keys of the real store are compared with them byte for byte on every run. The planner's choice of conditions (e.g.
nothing under `_or`) is covered by the twin-database comparison only.
-/
import DefraModel.Proofs.IndexRange
import DefraModel.Proofs.IndexMaint
import DefraModel.Proofs.IndexMulti
namespace Defra.Props.C07
open Defra Defra.Enc Defra.Bytes Defra.Index Defra.Props.C17

/-- the condition `x op v` in the order of the values themselves -/
def satisfies (op : RangeOp) (x v : Val) : Prop :=
  match op with
  | .gt => Val.lt v x
  | .ge => x = v ∨ Val.lt v x
  | .lt => Val.lt x v
  | .le => x = v ∨ Val.lt x v

theorem valueKey_slt (col idx : Nat) (d : Bool) {a b : Val} (r s : Bytes)
    (h : slt (fieldValue d a) (fieldValue d b) = true) :
    slt (valueKey col idx d a ++ r) (valueKey col idx d b ++ s) = true := by
  unfold valueKey
  rw [List.append_assoc, List.append_assoc, slt_prefix]
  simpa using slt_append _ _ r s h

theorem entry_isBytes (col idx : Nat) (d : Bool) (x : Val) (rest : Bytes) (hx : Val.Wf x)
    (hj : ∀ p y, x ≠ .json p y) (hr : IsBytes rest) : IsBytes (entryKey col idx d x rest) := by
  unfold entryKey valueKey baseKey
  refine isBytes_append (isBytes_append (isBytes_append ?_ ?_) ?_) hr
  · exact isBytes_cons (by decide) (uvarintAsc_isBytes _)
  · exact isBytes_cons (by decide) (uvarintAsc_isBytes _)
  · exact isBytes_cons (by decide) (fieldValue_isBytes d x hx hj)

theorem entry_in_own_prefix (col idx : Nat) (d : Bool) (x : Val) (rest : Bytes) :
    lt (entryKey col idx d x rest) (valueKey col idx d x) = false ∧
    lt (entryKey col idx d x rest) (prefixEnd (valueKey col idx d x)) = true := by
  constructor
  · exact lt_append_self _ _
  · obtain ⟨e, he⟩ := pe_valueKey col idx d x
    rw [prefixEnd_eq, he]
    exact slt_imp_lt _ _ (pe_upper _ rest e he)

theorem entry_in_index (col idx : Nat) (d : Bool) (x : Val) (rest : Bytes) :
    lt (entryKey col idx d x rest) (baseKey col idx) = false ∧
    lt (entryKey col idx d x rest) (prefixEnd (baseKey col idx)) = true := by
  constructor
  · unfold entryKey valueKey; rw [List.append_assoc]; exact lt_append_self _ _
  · obtain ⟨e, he⟩ := pe_base col idx
    rw [prefixEnd_eq, he]
    unfold entryKey valueKey; rw [List.append_assoc]
    exact slt_imp_lt _ _ (pe_upper _ _ e he)

/-- the direction-adjusted key order: for a descending field a greater value has the smaller key -/
theorem key_order (d : Bool) (a b : Val) (ha : Val.Wf a) (hb : Val.Wf b) (h : Val.lt a b) :
    if d then slt (fieldValue d b) (fieldValue d a) = true else slt (fieldValue d a) (fieldValue d b) = true :=
  enc_mono d a b ha hb h

/-- **range completeness**: in each of the eight operator × direction cases, the entry of a stored value that
    satisfies the condition lies inside the interval the iterator scans. (Other entries may lie inside too — null
    entries for `_lt` — and are removed by the re-applied filter. `hjx` leaves JSON entries out: `Val.Wf` says nothing
    about the property names of a JSON path, so such a key need not consist of bytes.) -/
theorem range_complete (col idx : Nat) (desc : Bool) (op : RangeOp) (v x : Val) (rest : Bytes)
    (hv : Val.Wf v) (hx : Val.Wf x) (hjx : ∀ p y, x ≠ .json p y) (hr : IsBytes rest)
    (hsat : satisfies op x v) :
    inRange (entryKey col idx desc x rest) (rangeBounds col idx desc op v) = true := by
  have hb := entry_isBytes col idx desc x rest hx hjx hr
  have own := entry_in_own_prefix col idx desc x rest
  have inIdx := entry_in_index col idx desc x rest
  unfold inRange rangeBounds
  -- an entry whose value has the greater key lies after the whole prefix range of `valueKey v`,
  -- one whose value has the smaller key before it
  have above : slt (fieldValue desc v) (fieldValue desc x) = true →
      lt (entryKey col idx desc x rest) (valueKey col idx desc v) = false ∧
      lt (entryKey col idx desc x rest) (prefixEnd (valueKey col idx desc v)) = false := by
    intro h
    have hs : slt (valueKey col idx desc v) (entryKey col idx desc x rest) = true := by
      simpa [entryKey] using valueKey_slt col idx desc [] rest h
    obtain ⟨ev, hev⟩ := pe_valueKey col idx desc v
    rw [prefixEnd_eq, hev]
    exact ⟨lt_asymm _ _ (slt_imp_lt _ _ hs), pe_lower _ _ ev hev hs hb⟩
  have below : slt (fieldValue desc x) (fieldValue desc v) = true →
      lt (entryKey col idx desc x rest) (valueKey col idx desc v) = true ∧
      lt (entryKey col idx desc x rest) (prefixEnd (valueKey col idx desc v)) = true := by
    intro h
    have h1 : lt (entryKey col idx desc x rest) (valueKey col idx desc v) = true :=
      slt_imp_lt _ _ (by simpa [entryKey] using valueKey_slt col idx desc rest [] h)
    exact ⟨h1, lt_trans _ _ _ h1 (by simpa [entryKey] using (entry_in_own_prefix col idx desc v []).2)⟩
  cases desc <;> cases op <;> simp only [satisfies] at hsat <;>
    simp only [Bool.false_eq_true, if_false, if_true, Bool.and_eq_true, Bool.not_eq_true']
  -- ascending index
  case false.gt => exact ⟨(above (asc_mono v x hv hx hsat)).2, inIdx.2⟩
  case false.ge =>
    rcases hsat with rfl | h
    · exact ⟨own.1, inIdx.2⟩
    · exact ⟨(above (asc_mono v x hv hx h)).1, inIdx.2⟩
  case false.lt => exact ⟨inIdx.1, (below (asc_mono x v hx hv hsat)).1⟩
  case false.le =>
    rcases hsat with rfl | h
    · exact ⟨inIdx.1, own.2⟩
    · exact ⟨inIdx.1, (below (asc_mono x v hx hv h)).2⟩
  -- descending index: a greater value has the smaller key, and the code swaps the boundaries
  case true.gt => exact ⟨inIdx.1, (below (desc_anti v x hv hx hsat)).1⟩
  case true.ge =>
    rcases hsat with rfl | h
    · exact ⟨inIdx.1, own.2⟩
    · exact ⟨inIdx.1, (below (desc_anti v x hv hx h)).2⟩
  case true.lt => exact ⟨(above (desc_anti x v hx hv hsat)).2, inIdx.2⟩
  case true.le =>
    rcases hsat with rfl | h
    · exact ⟨own.1, inIdx.2⟩
    · exact ⟨(above (desc_anti x v hx hv h)).1, inIdx.2⟩

/-- the equality lookup (prefix scan of the value key) finds every entry with that value -/
theorem eq_prefix_complete (col idx : Nat) (desc : Bool) (v : Val) (rest : Bytes) :
    isPrefix (valueKey col idx desc v) (entryKey col idx desc v rest) = true := by
  rw [isPrefix_iff]; exact ⟨rest, rfl⟩

/-- **re-filtering makes a complete candidate set exact**: duplicate-free candidates out of the collection that contain
    every matching document filter to exactly the matching documents -/
theorem refilter_exact {α : Type} (docs cands : List α) (m : α → Bool)
    (hd : docs.Nodup) (hc : cands.Nodup) (hsub : ∀ d ∈ cands, d ∈ docs)
    (hcomplete : ∀ d ∈ docs, m d = true → d ∈ cands) :
    (cands.filter m).Perm (docs.filter m) :=
  Lookup.refilter_perm m hd hc hsub hcomplete

/-! non-vacuity: `_ge 5` on an ascending and `_lt 5` on a descending Int index, with a docID suffix -/
example : inRange (entryKey 1 2 false (.int 7) [0x2f, 6, 0x61, 0, 1]) (rangeBounds 1 2 false .ge (.int 5)) = true := by
  decide
example : inRange (entryKey 1 2 true (.int 3) [0x2f, 6, 0x61, 0, 1]) (rangeBounds 1 2 true .lt (.int 5)) = true := by
  decide
example : inRange (entryKey 1 2 false (.int 4) [0x2f, 6, 0x61, 0, 1]) (rangeBounds 1 2 false .ge (.int 5)) = false := by
  decide

/-- **Index maintenance, every history.** An index created at any moment on a collection with distinct identifiers and
    carried through any sequence of creates, updates and deletes holds exactly one entry per live document, with its
    current values. -/
theorem index_matches_documents_after_every_history {α κ : Type} [DecidableEq κ] (key : α → κ)
    (docs : List (Nat × α)) (hn : (docs.map (·.1)).Nodup) (ops : List (IndexMaint.Op α)) :
    let s := ops.foldl (IndexMaint.step key) (IndexMaint.build key docs)
    (s.docs.map (·.1)).Nodup ∧ s.entries.Perm (s.docs.map (fun d => (key d.2, d.1))) :=
  IndexMaint.run_inv key _ ops ⟨hn, .refl _⟩

/-- a document is reachable through the index under a value exactly when it is live and holds that value -/
theorem index_entry_iff_live_value {α κ : Type} [DecidableEq κ] (key : α → κ)
    (docs : List (Nat × α)) (hn : (docs.map (·.1)).Nodup) (ops : List (IndexMaint.Op α)) (k : κ) (id : Nat) :
    let s := ops.foldl (IndexMaint.step key) (IndexMaint.build key docs)
    (k, id) ∈ s.entries ↔ ∃ a, (id, a) ∈ s.docs ∧ key a = k := by
  intro s
  rw [(index_matches_documents_after_every_history key docs hn ops).2.mem_iff, List.mem_map]
  constructor
  · rintro ⟨⟨i, a⟩, hd, he⟩
    cases he
    exact ⟨a, hd, rfl⟩
  · rintro ⟨a, ha, rfl⟩
    exact ⟨(id, a), ha, rfl⟩

/-! non-vacuity: index built over two documents, then one updated, one deleted, one created -/
example :
    (([IndexMaint.Op.update 1 30, .delete 2, .create 3 7, .update 3 8] : List (IndexMaint.Op Nat)).foldl
      (IndexMaint.step (fun a => a % 10)) (IndexMaint.build (fun a => a % 10) [(1, 11), (2, 22)])).entries
      = [(0, 1), (8, 3)] := by decide

/-- **A multi-entry index scan, de-duplicated and re-filtered, is exact.** Whatever list an index scan yields, with any
    repetitions (array and composite-over-array indexes), if it yields only documents of the collection and misses no
    matching one, de-duplicating it as `memorizingIndexIterator` does and re-applying the complete filter gives every
    matching document once. -/
theorem multi_entry_scan_exact {α : Type} [DecidableEq α] (docs scan : List α) (m : α → Bool)
    (hd : docs.Nodup) (hsub : ∀ d ∈ scan, d ∈ docs) (hcomplete : ∀ d ∈ docs, m d = true → d ∈ scan) :
    ((IndexMulti.dedupSeen [] scan).filter m).Perm (docs.filter m) :=
  refilter_exact docs _ m hd (IndexMulti.nodup_dedupSeen scan [])
    (fun d h => hsub d ((IndexMulti.mem_dedupSeen scan [] d).mp h).1)
    (fun d h hm => (IndexMulti.mem_dedupSeen scan [] d).mpr ⟨hcomplete d h hm, by simp⟩)

/-- **Every live document is reachable through every index**: whatever its values — nil, an empty array (indexed under
    nil), repeated elements — a document generates at least one entry under any list of indexed fields
    (`generateKeysAndProcess`, `internal/db/index.go`): the completeness premise for conditions on the other fields of
    a composite index. -/
theorem every_document_has_an_entry_in_every_index (d : IndexMulti.MDoc) (fields : List String) :
    IndexMulti.keysOf d fields ≠ [] :=
  IndexMulti.keysOf_ne_nil d fields

example : IndexMulti.keysOf ⟨1, .str [97], .null, some [], none⟩ ["name", "nums", "tags"] = [[.str [97], .null, .null]] := by
  decide

/-- **The index path returns what the scan returns**, for every index over scalar and array fields, filter and document
    list with distinct identifiers: if the candidate test derived from the filter passes at least one key of every
    matching document, the index fetch (candidate entries, de-duplication by document, look-up, complete filter) yields
    exactly the documents of the plain scan, each once. -/
theorem index_fetch_equals_scan (fields : List String) (cand : List Query.V → Bool) (f : IndexMulti.Filter)
    (docs : List IndexMulti.MDoc) (hn : (docs.map (·.k)).Nodup)
    (hcomplete : ∀ d ∈ docs, IndexMulti.satisfies f d = true →
      ∃ key ∈ IndexMulti.keysOf d fields, cand key = true) :
    (IndexMulti.indexFetch fields cand f docs).Perm (IndexMulti.eval f docs) :=
  IndexMulti.indexFetch_perm_eval fields cand f docs hn hcomplete

/-- an index none of whose fields the filter constrains loses nothing, because every document has an entry -/
theorem unconstrained_index_fetch_equals_scan (fields : List String) (f : IndexMulti.Filter)
    (docs : List IndexMulti.MDoc) (hn : (docs.map (·.k)).Nodup) :
    (IndexMulti.indexFetch fields (fun _ => true) f docs).Perm (IndexMulti.eval f docs) := by
  refine index_fetch_equals_scan fields _ f docs hn fun d _ _ => ?_
  obtain ⟨key, hk⟩ := List.exists_mem_of_ne_nil _ (every_document_has_an_entry_in_every_index d fields)
  exact ⟨key, hk, rfl⟩

/-- `_eq` on the leading scalar field, or `_any: {_eq: v}` on the leading array field, served by the prefix look-up
    under `v`, returns what the scan returns, whatever the further conditions and index fields -/
theorem leading_eq_lookup_equals_scan (f0 : String) (rest : List String) (v : Query.V) (conj : List IndexMulti.Atom)
    (hin : IndexMulti.Atom.sc f0 .eq [v] ∈ conj) (hsc : IndexMulti.isArrayField f0 = false)
    (docs : List IndexMulti.MDoc) (hn : (docs.map (·.k)).Nodup) :
    (IndexMulti.indexFetch (f0 :: rest) (fun key => Query.vEq v (key.headD .null)) [conj] docs).Perm
      (IndexMulti.eval [conj] docs) :=
  index_fetch_equals_scan _ _ _ docs hn (fun d _ hs => IndexMulti.leading_eq_complete f0 rest v conj hin hsc d hs)

theorem leading_any_eq_lookup_equals_scan (f0 : String) (rest : List String) (v : Query.V)
    (conj : List IndexMulti.Atom) (hin : IndexMulti.Atom.arr f0 .any .eq [v] ∈ conj)
    (harr : IndexMulti.isArrayField f0 = true) (docs : List IndexMulti.MDoc) (hn : (docs.map (·.k)).Nodup) :
    (IndexMulti.indexFetch (f0 :: rest) (fun key => Query.vEq v (key.headD .null)) [conj] docs).Perm
      (IndexMulti.eval [conj] docs) :=
  index_fetch_equals_scan _ _ _ docs hn (fun d _ hs => IndexMulti.leading_any_eq_complete f0 rest v conj hin harr d hs)

/-- non-vacuity: an index on (nums, name), `nums: {_any: {_eq: 2}}`: two of three documents, the one holding 2 twice
    listed once -/
example :
    IndexMulti.indexFetch ["nums", "name"] (fun key => Query.vEq (.int 2) (key.headD .null))
      [[IndexMulti.Atom.arr "nums" .any .eq [.int 2]]]
      [⟨1, .str [97], .null, some [.int 2, .int 2, .int 5], none⟩, ⟨2, .str [98], .null, some [], none⟩,
       ⟨3, .null, .null, some [.int 1, .int 2], none⟩] = [1, 3] := by decide

/-- without the de-duplication the statement is false: a document with two entries is listed twice -/
example : ([7, 7, 8].filter (fun _ => true)) ≠ [7, 8] ∧ (IndexMulti.dedupSeen [] [7, 7, 8]).filter (fun _ => true) = [7, 8] := by
  decide

/-- **Unique indexes, every history of local writes.** After any sequence of creates, updates, deletes and creations of
    unique indexes, each accepted or rejected by the rule of `collectionUniqueIndex`, identifiers are distinct and no
    two live documents share a key without nil component under any unique index. -/
theorem unique_index_never_shared_after_every_history (ops : List IndexMulti.Op) :
    IndexMulti.UInv (ops.foldl (fun s op => (IndexMulti.step s op).1) {}) :=
  IndexMulti.run_inv {} ops ⟨by simp, by intro fs hfs; cases hfs⟩

/-- **… rejecting exactly the writes that would.** A create with a fresh identifier is rejected if and only if some
    unique index has a key without nil component that the new document shares with a live one. -/
theorem unique_index_rejects_exactly (s : IndexMulti.St) (d : IndexMulti.MDoc)
    (hfresh : s.docs.any (·.k == d.k) = false) :
    (IndexMulti.step s (.create d)).2 = false ↔
      ∃ fs ∈ s.uniq, ∃ o ∈ s.docs, o.k ≠ d.k ∧ IndexMulti.Shares fs d o := by
  rw [← IndexMulti.rejectedBy_iff]
  simp only [IndexMulti.step, hfresh, Bool.false_eq_true, if_false]
  cases IndexMulti.rejectedBy s d <;> simp

/-- the same for an update: rejected iff the new contents would share such a key with another live document -/
theorem unique_index_update_rejects_exactly (s : IndexMulti.St) (d : IndexMulti.MDoc)
    (hlive : s.docs.any (·.k == d.k) = true) :
    (IndexMulti.step s (.update d)).2 = false ↔
      ∃ fs ∈ s.uniq, ∃ o ∈ s.docs, o.k ≠ d.k ∧ IndexMulti.Shares fs d o := by
  rw [← IndexMulti.rejectedBy_iff]
  simp only [IndexMulti.step, hlive, Bool.not_true, Bool.false_eq_true, if_false]
  cases IndexMulti.rejectedBy s d <;> simp

/-! non-vacuity: a unique index on (name, nums): sharing one array element under the same name is rejected, a nil
    name never collides, and the value is free again after a delete -/
section
open IndexMulti Query
def dA : MDoc := ⟨1, .str [97], .int 3, some [.int 1, .int 2], none⟩
def dB : MDoc := ⟨2, .str [97], .int 4, some [.int 2, .int 5], none⟩
def dC : MDoc := ⟨3, .null, .int 4, some [.int 2], none⟩
example :
    let s0 : St := { uniq := [["name", "nums"]] }
    let s1 := (step s0 (.create dA)).1
    (step s1 (.create dB)).2 = false ∧ (step s1 (.create dC)).2 = true ∧
      (step (step s1 (.delete 1)).1 (.create dB)).2 = true := by decide
end

end Defra.Props.C07
