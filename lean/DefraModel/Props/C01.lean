/-
C01 — Replicas that have seen the same commits show the same documents.
About `mergeDoc`, the mirror of DefraDB's merge path (Crdt/Model.lean). Proved: applying the deltas of a set of blocks,
each once, gives the same values in every order, and ties are broken by the values alone; the merged set after a
delivery depends only on the merged set before and on the commit; after every history of deliveries (any orders,
repetitions, groupings; local writes included) the values are the deltas of the merged blocks, each once, so replicas
with the same merged commits show the same values. "Each once" is C02.
-/
import DefraModel.Props.C02
import DefraModel.Proofs.CrdtConverge
namespace Defra.Props.C01
open Defra Defra.Crdt

/-- two deltas applied in either order give the same values, for blocks of every kind (registers incl. null and
    equal-height ties, counters, delete) -/
theorem two_deltas_commute (s : Vals) (a b : Block) :
    applyDelta (applyDelta s a) b = applyDelta (applyDelta s b) a := applyDelta_comm s a b

/-- **convergence (values)**: the same commits applied once each, in any two orders, from the same state, give the same
    values -/
theorem convergence_partial (s : Vals) (order₁ order₂ : List Block) (same : order₁.Perm order₂) :
    order₁.foldl applyDelta s = order₂.foldl applyDelta s := foldl_applyDelta_perm s order₁ order₂ same

/-- the same, phrased with sets: duplicate-free delivery lists with the same members -/
theorem convergence_of_same_set (s : Vals) (l₁ l₂ : List Nat) (blk : Nat → Block)
    (d₁ : l₁.Nodup) (d₂ : l₂.Nodup) (same : ∀ c, c ∈ l₁ ↔ c ∈ l₂) :
    (l₁.map blk).foldl applyDelta s = (l₂.map blk).foldl applyDelta s :=
  foldl_applyDelta_perm s _ _ (((List.perm_ext_iff_of_nodup d₁ d₂).mpr same).map blk)

/-- **convergence (heads)**: two head lists that are both "the childless merged commits" of the same set have the same
    members -/
theorem heads_determined (par : Nat → Nat → Prop) (S : Nat → Prop) (h₁ h₂ : List Nat)
    (m₁ : HeadsAreMaximal par S h₁) (m₂ : HeadsAreMaximal par S h₂) (x : Nat) : x ∈ h₁ ↔ x ∈ h₂ := by
  rw [m₁ x, m₂ x]

/-- equal-height ties are decided by the values alone, whichever arrives first -/
theorem tie_deterministic (a b : Nat × Bytes) : lwwMax a b = lwwMax b a := lwwMax_comm a b

/-- the register merge the code performs IS the maximum in (height, bytes) order -/
theorem register_merge_is_max (cur : Nat × Bytes) (p : Nat) (v : Bytes) :
    lwwMerge (some cur) p v = lwwMax cur (p, v) := lwwMerge_some cur p v

/-- floating-point counters cannot satisfy the property: with any addition that is not associative-commutative on some
    triple, two delivery orders of the same two commits differ (DefraDB's Float pncounter uses IEEE addition; known
    finding `float-counter-nonassoc`) -/
theorem nonassoc_diverges {F : Type} (fadd : F → F → F) (a x y : F)
    (h : fadd (fadd a x) y ≠ fadd (fadd a y) x) :
    [x, y].foldl fadd a ≠ [y, x].foldl fadd a := by simpa using h

/-! non-vacuity: a concurrent tie with a null on one side, a counter and a delete -/
def bNull : Block := ⟨5, .field "name", "d", 2, [3], [], .lww cborNil⟩
def bStr : Block := ⟨6, .field "name", "d", 2, [3], [], .lww [0x61, 0x62]⟩
def bCtr : Block := ⟨7, .field "points", "d", 2, [4], [], .ctr 10⟩
def bDel : Block := ⟨8, .comp, "d", 3, [1], [], .comp true⟩

example : ([bNull, bStr, bCtr, bDel].foldl applyDelta {}).lww "name" = some (2, cborNil) := by decide
example : ([bDel, bCtr, bStr, bNull].foldl applyDelta {}).lww "name" = some (2, cborNil) := by decide
example : [bNull, bStr, bCtr, bDel].Perm [bDel, bCtr, bStr, bNull] := by decide

/-- **The merged set after a delivery depends only on the merged set before and on the commit**: two replicas whose
    document has the same merged set (the heads may be listed differently) and that merge the same commit have the same
    merged set afterwards. -/
theorem same_merged_set_after_same_delivery (cx : Ctx) (hwf : wfCheck cx.blocks = true)
    (hknown : ∀ l, (cx.blocks.get? l).isSome = true → cx.known l = true)
    (r₁ r₂ : Replica) (c : Block) (hc : cx.blocks.get? c.id = some c) (hck : c.kind = .comp)
    (h₁ : headsCheck cx.blocks (r₁.doc c.doc).heads = true) (h₂ : headsCheck cx.blocks (r₂.doc c.doc).heads = true)
    (same : ∀ t, Reach cx.blocks (r₁.doc c.doc).heads t ↔ Reach cx.blocks (r₂.doc c.doc).heads t) (t : Nat) :
    Reach cx.blocks ((mergeDoc cx r₁ c).doc c.doc).heads t ↔ Reach cx.blocks ((mergeDoc cx r₂ c).doc c.doc).heads t := by
  obtain ⟨_, _, _, _, _, a, _⟩ :=
    Props.C02.merge_applies_exactly_the_unmerged_ancestors_once cx hwf hknown r₁ c hc hck h₁
  obtain ⟨_, _, _, _, _, b, _⟩ :=
    Props.C02.merge_applies_exactly_the_unmerged_ancestors_once cx hwf hknown r₂ c hc hck h₂
  rw [a t, b t, same t]

/-- **Convergence, every pair of histories.** Two replicas start empty and are delivered stored commits: any commits, in
    any orders, any number of times, in any grouping (a delivered commit brings its not yet merged ancestors with it). If
    in the end they have merged the same commits of a document, they show the same delete marker, registers and counters
    for it. `wfCheck3` is evaluated on the stores of the run. -/
theorem same_commits_same_document (cx : Ctx) (hwf : wfCheck3 cx.blocks = true)
    (hknown : ∀ l, (cx.blocks.get? l).isSome = true → cx.known l = true) (d : String)
    (cs₁ cs₂ : List Block)
    (h₁ : ∀ c ∈ cs₁, cx.blocks.get? c.id = some c ∧ c.kind = .comp)
    (h₂ : ∀ c ∈ cs₂, cx.blocks.get? c.id = some c ∧ c.kind = .comp)
    (same : ∀ t, Reach cx.blocks ((cs₁.foldl (mergeDoc cx) {}).doc d).heads t ↔
      Reach cx.blocks ((cs₂.foldl (mergeDoc cx) {}).doc d).heads t) :
    ((cs₁.foldl (mergeDoc cx) {}).doc d).vals = ((cs₂.foldl (mergeDoc cx) {}).doc d).vals := by
  have swf := wfCheck3_sound cx.blocks hwf
  have e : DocInv cx.blocks (({} : Replica).doc d) := docInv_empty cx.blocks
  exact same_commits_same_values cx.blocks _ _
    (deliveries_docInv cx swf hknown d cs₁ {} h₁ e) (deliveries_docInv cx swf hknown d cs₂ {} h₂ e) same

/-- a local write, a new commit on top of the current heads, is the delivery of that commit (`drv crdt` replays local
    writes with `processBlock`), so the histories above cover local writes -/
theorem local_write_is_a_delivery (cx : Ctx) (r : Replica) (c : Block) (hc : cx.blocks.get? c.id = some c)
    (hn : isMerged cx.blocks (r.doc c.doc).heads c.id c.height = false)
    (hp : ∀ p ∈ c.parents, ∀ pb, cx.blocks.get? p = some pb →
      isMerged cx.blocks (r.doc c.doc).heads p pb.height = true) :
    mergeDoc cx r c = processBlock cx 4 r c := by
  have hcoll : (loadComposites cx.blocks (r.doc c.doc).heads (cx.blocks.length + 1) c.id ([], [])).1 = [c] := by
    unfold loadComposites
    simp only [List.contains_nil, Bool.false_eq_true, if_false, hc, hn]
    rw [foldl_merged_parents cx.blocks _ _ c.parents _ hp]
  rw [mergeDoc_eq, hcoll]
  rfl

/-- after every history of deliveries the values are the deltas of the merged blocks, each once -/
theorem values_are_the_merged_deltas_once (cx : Ctx) (hwf : wfCheck3 cx.blocks = true)
    (hknown : ∀ l, (cx.blocks.get? l).isSome = true → cx.known l = true) (d : String) (cs : List Block)
    (h : ∀ c ∈ cs, cx.blocks.get? c.id = some c ∧ c.kind = .comp) :
    ∃ l : List Block, (l.map (·.id)).Nodup ∧
      (∀ b, b ∈ l ↔ MergedIn cx.blocks ((cs.foldl (mergeDoc cx) {}).doc d) b) ∧
      ((cs.foldl (mergeDoc cx) {}).doc d).vals = l.foldl applyDelta {} :=
  (deliveries_docInv cx (wfCheck3_sound cx.blocks hwf) hknown d cs {} h (docInv_empty cx.blocks)).accounted

/-- **The document as a closed formula of its merged blocks `l`, after every history**: every counter is the sum of their
    increments, the document is deleted exactly when one of them deletes it, every register holds a value one of them
    wrote and none exceeds in (height, bytes) order. These are the formulas `canon` computes; `canon` itself, which
    `drv crdt` compares the implementation with after every step, is compared with the model by execution only. -/
theorem document_is_the_closed_form_of_its_merged_blocks (cx : Ctx) (hwf : wfCheck3 cx.blocks = true)
    (hknown : ∀ l, (cx.blocks.get? l).isSome = true → cx.known l = true) (d : String) (cs : List Block)
    (h : ∀ c ∈ cs, cx.blocks.get? c.id = some c ∧ c.kind = .comp) :
    ∃ l : List Block, (l.map (·.id)).Nodup ∧
      (∀ b, b ∈ l ↔ MergedIn cx.blocks ((cs.foldl (mergeDoc cx) {}).doc d) b) ∧
      (∀ f, ((((cs.foldl (mergeDoc cx) {}).doc d).vals).ctr f).getD 0 = (l.map (ctrOf f)).sum) ∧
      ((((cs.foldl (mergeDoc cx) {}).doc d).vals).marker = some true ↔ ∃ b ∈ l, isDelete b = true) ∧
      (∀ f r, (((cs.foldl (mergeDoc cx) {}).doc d).vals).lww f = some r →
        (∃ b ∈ l, lwwOf f b = some r) ∧ ∀ b ∈ l, ∀ x, lwwOf f b = some x → ple x r) := by
  obtain ⟨l, hn, hm, hv⟩ := values_are_the_merged_deltas_once cx hwf hknown d cs h
  refine ⟨l, hn, hm, ?_, ?_, ?_⟩
  · intro f
    rw [hv, foldl_ctr]
    simp
  · rw [hv, foldl_marker]
    simp
  · intro f r hr
    rw [hv] at hr
    exact Props.C02.register_holds_a_latest_write l f r hr

/-- the counter store of C02 delivered head first (the ancestor comes with it) or one by one -/
example :
    let cx : Ctx := ⟨Props.C02.counterStore, fun _ => true⟩
    let c1 : Block := ⟨1, .comp, "d", 1, [], [2], .comp false⟩
    let c3 : Block := ⟨3, .comp, "d", 2, [1], [4], .comp false⟩
    ((([c3].foldl (mergeDoc cx) {}).doc "d").vals.ctr "points") = some 11 ∧
    ((([c1, c3, c1].foldl (mergeDoc cx) {}).doc "d").vals.ctr "points") = some 11 := by decide

end Defra.Props.C01
