/-
C18 — Export followed by import reproduces the data.
Two models of the exporter. The first part is about `Backup.lean` (`ids`, `exportSpec`, `exportPinned`), an abstract
model that no driver runs; the second about `Backup/Export.lean`, the statement-by-statement mirror of `basicExport` /
`basicImport` that `drv backup` runs against the implementation.
-/
import DefraModel.Proofs.BackupIds
import DefraModel.Proofs.BackupExport
namespace Defra.Props.C18
open Defra Defra.Backup

/-- **integers survive**: `basicImport` keeps the digits as they are written in the file (`UseNumber`), which needs no
    theorem. `roundF64` is what decoding them through an IEEE double would do: the identity on every integer of at
    most 53 bits -/
theorem small_ints_survive_even_rounding (n : Int) (h : n.natAbs < 2 ^ 53) : roundF64 n = n := by
  unfold roundF64
  have : Nat.log2 n.natAbs + 1 ≤ 53 := by
    by_cases h0 : n.natAbs = 0
    · simp [h0]
    · have := (Nat.log2_lt h0).mpr h
      omega
  simp [this]

/-- ... and not beyond: three witnesses -/
theorem rounding_alters_big_ints : roundF64 9007199254740993 = 9007199254740992 ∧
    roundF64 (-9007199254740993) = -9007199254740992 ∧ roundF64 123456789012345678 = 123456789012345680 := by
  decide

/-- **identifiers match the file**: when the exporter writes, for every document, its content and the new
    identifier of the document it references (`exportSpec`), the identifier every imported document gets is the
    `_docIDNew` recorded for it — for any hash and any acyclic reference structure (references point to earlier
    documents of the list) -/
theorem import_ids_match {ι : Type} (H : Nat → Option ι → ι) (docs : List D)
    (hback : ∀ (i : Nat) (d : D), docs[i]? = some d → ∀ j, d.ref = some j → j < i) :
    importIds H (exportSpec H docs) = recordedIds (exportSpec H docs) := by
  unfold importIds recordedIds exportSpec
  simp only [List.map_map]
  apply List.map_congr_left
  intro ⟨d, nid⟩ hp
  simp only [Function.comp]
  -- (d, nid) is the i-th pair of the zip: nid = ids[i]
  obtain ⟨i, hi⟩ := List.getElem?_of_mem hp
  rw [List.getElem?_zip_eq_some] at hi
  have := ids_spec H docs hback i d hi.1
  rw [hi.2] at this
  exact (Option.some.inj this).symm

/-- `ids` on a chain of three, for any hash (the general statement is `ids_spec`) -/
example : ∀ (H : Nat → Option Nat → Nat), ids H [⟨10, none⟩, ⟨11, some 0⟩, ⟨12, some 1⟩] =
    [H 10 none, H 11 (some (H 10 none)), H 12 (some (H 11 (some (H 10 none))))] := by
  intro H; rfl

/-- **known finding, proved of the mirror**: with a chain of three documents (c references b references a) the
    repository's exporter writes for c the foreign key `H b none`, while the identifier recorded for b (and obtained
    by the importer) is `H b (some a')`; the documented exporter writes b's recorded identifier -/
theorem pinned_export_breaks_chains (H : Nat → Option Nat → Nat) :
    let docs : List D := [⟨10, none⟩, ⟨11, some 0⟩, ⟨12, some 1⟩]
    ((exportPinned H docs)[2]?).map (·.2.1) = some (some (H 11 none)) ∧
    ((exportSpec H docs)[2]?).map (·.2.1) = some (some (H 11 (some (H 10 none)))) ∧
    (recordedIds (exportPinned H docs))[1]? = some (H 11 (some (H 10 none))) := by
  intro docs
  refine ⟨rfl, rfl, rfl⟩

/-- ... and for chains of two the repository's exporter agrees with the documented one -/
theorem pinned_export_ok_for_pairs (H : Nat → Option Nat → Nat) (a b : Nat) :
    exportPinned H [⟨a, none⟩, ⟨b, some 0⟩] = exportSpec H [⟨a, none⟩, ⟨b, some 0⟩] := by
  -- unfolded first: `rfl` on the folded terms makes the unifier evaluate both exporters before it compares them
  unfold exportPinned exportSpec
  rfl

/-! ### the exporter and the importer as they are (`Backup/Export.lean`, compared record by record with /repo by `drv backup`) -/
open Defra.Backup.Export in
/-- **what the file holds**: for every set of documents of a self-referencing collection in which no referenced
    document references another one — any number of documents, in any key order, with self references, references to
    deleted documents, and documents changed since they were created (old and new identifiers differ) — the exporter
    (loop, `keyChangeCache`, recomputed foreign documents, self-reference fix-up) writes for every document its content,
    the NEW identifier of the document it references, and its own new identifier -/
theorem export_writes_new_identifier_of_every_target (store : List Emp)
    (hn : noChain store = true) (hnd : (store.map (·.id)).Nodup) :
    exportImpl store = store.map (specRec store) := exportImpl_eq_spec hn hnd

open Defra.Backup.Export in
/-- **export followed by import reproduces the documents and their relations** under the recorded mapping, for the same
    stores: every foreign key in the file is the recorded new identifier of the live document it referenced (nil when
    that document is gone), and the importer — which detects a self reference by `boss_id = _docIDNew` — gives every
    record exactly the identifier recorded for it.  PARTIAL: the statement for all stores is false, see below -/
theorem export_import_round_trip_partial (store : List Emp)
    (hn : noChain store = true) (hnd : (store.map (·.id)).Nodup) : roundTripOk store = true :=
  roundTrip_of_noChain hn hnd

open Defra.Backup.Export in
/-- **known finding, proved of the mirror of the real exporter**: a chain c -> b -> a of unchanged documents is exported
    with c's key pointing at an identifier no document has -/
theorem export_import_round_trip_fails_on_a_chain :
    let store : List Emp := [⟨[10], 10, none⟩, ⟨[11, 10], 11, some [10]⟩, ⟨[12, 11, 10], 12, some [11, 10]⟩]
    noChain store = false ∧ roundTripOk store = false ∧
    ((exportImpl store)[2]?).map (·.fk) = some (some [11]) ∧ newOf (exportImpl store) [11, 10] = some [11, 10] := by
  decide

/-! non-vacuity of the hypotheses: a changed document (identifier differs from the recomputed one), a reference to it
    listed before it, a self reference and a reference to a deleted document -/
open Defra.Backup.Export in
example :
    let store : List Emp := [⟨[3, 1], 3, some [1]⟩, ⟨[1], 9, none⟩, ⟨[4], 4, some [4]⟩, ⟨[5, 77], 5, some [77]⟩]
    noChain store = true ∧ (store.map (·.id)).Nodup ∧
    exportImpl store = [⟨[3, 1], 3, some [9], [3, 9]⟩, ⟨[1], 9, none, [9]⟩, ⟨[4], 4, some [4], [4]⟩, ⟨[5, 77], 5, none, [5]⟩] := by
  decide

end Defra.Props.C18
