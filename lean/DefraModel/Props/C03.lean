/-
C03 — A document queried at a commit shows exactly the state of that commit.
`versionedVals` mirrors the versioned fetcher (DefraModel/Crdt/Versioned.lean). For every block store and commit the read
folds `applyDelta` over a duplicate-free list holding exactly the stored ancestors-or-self of the commit and what they
link; for every store passing `wfCheck3` it shows the values of a replica delivered that commit alone, hence of any
replica standing at that commit.
-/
import DefraModel.Proofs.CrdtVersionedDelivered
import DefraModel.Props.C01
namespace Defra.Props.C03
open Defra Defra.Crdt

/-- the read at commit `c` is a fold of `applyDelta` over a duplicate-free list of stored blocks -/
theorem versioned_eq_canon_partial (bs : Blocks) (c : Nat) :
    ∃ (ids : List Nat), ids.Nodup ∧ versionedVals bs c = (ids.filterMap bs.get?).foldl applyDelta {} :=
  (versionedVals_replays bs c).imp fun _ h => ⟨h.1, h.2.1⟩

/-- **Each ancestor exactly once.** The list contains `c`, every stored commit reachable from `c` through parent links
    and every block such a commit links — for every block store, no well-formedness assumed. -/
theorem read_at_commit_replays_every_ancestor_once (bs : Blocks) (c : Nat) :
    ∃ (ids : List Nat), ids.Nodup ∧
      versionedVals bs c = (ids.filterMap bs.get?).foldl applyDelta {} ∧
      (∀ (n x : Nat) (b : Block), Path bs c x n → bs.get? x = some b → x ∈ ids ∧ ∀ l ∈ b.links, l ∈ ids) :=
  (versionedVals_replays bs c).imp fun _ h => ⟨h.1, h.2.1, replays_ancestors h.2.2⟩

/-- … and nothing else: everything the read replays is an ancestor-or-self of `c` or reachable from one through links -/
theorem read_at_commit_replays_nothing_else (bs : Blocks) (c : Nat) :
    ∃ (ids : List Nat), ids.Nodup ∧
      versionedVals bs c = (ids.filterMap bs.get?).foldl applyDelta {} ∧
      (∀ (n x : Nat) (b : Block), Path bs c x n → bs.get? x = some b → x ∈ ids ∧ ∀ l ∈ b.links, l ∈ ids) ∧
      (∀ x ∈ ids, ∃ q qb, bs.get? q = some qb ∧ Anc bs c q ∧ LReach bs q x) :=
  (versionedVals_replays bs c).imp fun _ h => ⟨h.1, h.2.1, replays_ancestors h.2.2, fun x => (h.2.2 x).mp⟩

/-- **A document queried at a commit shows exactly the state of that commit.** For every store passing `wfCheck3`
    (evaluated by `drv crdt` on the stores of the run) and every stored commit `c`: the read computes the values of a
    replica that started empty and was delivered `c`. -/
theorem read_at_commit_is_the_state_of_that_commit (cx : Ctx) (hwf : wfCheck3 cx.blocks = true)
    (hknown : ∀ l, (cx.blocks.get? l).isSome = true → cx.known l = true)
    (c : Block) (hc : cx.blocks.get? c.id = some c) (hck : c.kind = .comp) :
    versionedVals cx.blocks c.id = ((mergeDoc cx {} c).doc c.doc).vals :=
  versioned_eq_delivered cx (wfCheck3_sound cx.blocks hwf) hknown c hc hck

/-- **The read at the commit a replica stands at is what the replica shows now.** If what a replica, after any
    deliveries, has merged of a document is what a delivery of `c` alone merges (`c` is its latest commit), the
    versioned read at `c` and the ordinary read agree on every value: the two fetchers share no code and must agree
    there. -/
theorem read_at_the_current_commit_is_the_current_state (cx : Ctx) (hwf : wfCheck3 cx.blocks = true)
    (hknown : ∀ l, (cx.blocks.get? l).isSome = true → cx.known l = true) (cs : List Block)
    (h : ∀ c ∈ cs, cx.blocks.get? c.id = some c ∧ c.kind = .comp)
    (c : Block) (hc : cx.blocks.get? c.id = some c) (hck : c.kind = .comp)
    (same : ∀ t, Reach cx.blocks ((cs.foldl (mergeDoc cx) {}).doc c.doc).heads t ↔
      Reach cx.blocks ((mergeDoc cx {} c).doc c.doc).heads t) :
    versionedVals cx.blocks c.id = ((cs.foldl (mergeDoc cx) {}).doc c.doc).vals := by
  rw [read_at_commit_is_the_state_of_that_commit cx hwf hknown c hc hck]
  have := Props.C01.same_commits_same_document cx hwf hknown c.doc cs [c] h
    (fun b hb => by rw [List.mem_singleton.mp hb]; exact ⟨hc, hck⟩) (by simpa using same)
  simpa using this.symm

/-- hence a counter read at a commit is the sum of the replayed increments, one term per block -/
theorem counter_at_commit (bs : Blocks) (c : Nat) (f : String) :
    ∃ (ids : List Nat), ids.Nodup ∧
      ((versionedVals bs c).ctr f).getD 0 = ((ids.filterMap bs.get?).map (ctrOf f)).sum := by
  obtain ⟨ids, hn, h, _⟩ := versionedVals_replays bs c
  refine ⟨ids, hn, ?_⟩
  rw [h, foldl_ctr]
  simp

/-- a document read at a commit is deleted exactly when a replayed block deletes it -/
theorem deleted_at_commit (bs : Blocks) (c : Nat) :
    ∃ (ids : List Nat), ids.Nodup ∧
      ((versionedVals bs c).marker = some true ↔ ∃ b ∈ ids.filterMap bs.get?, isDelete b = true) := by
  obtain ⟨ids, hn, h, _⟩ := versionedVals_replays bs c
  refine ⟨ids, hn, ?_⟩
  rw [h, foldl_marker]
  simp

/-- the replay order of the queue, which the code fixes by height, is immaterial -/
theorem replay_order_free (l₁ l₂ : List Block) (p : l₁.Perm l₂) :
    l₁.foldl applyDelta {} = l₂.foldl applyDelta {} := foldl_applyDelta_perm {} l₁ l₂ p

/-! non-vacuity: the four-update counter chain `+1,+2,+3,+4` (composites 1,3,5,7; field blocks 2,4,6,8)
    reads 1, 3, 6, 10 at its four commits (without the visited set of `vmerge` the read is 1, 5, 15, 35: F5) -/
def chain : Blocks := [
  ⟨1, .comp, "d", 1, [], [2], .comp false⟩, ⟨2, .field "points", "d", 1, [], [], .ctr 1⟩,
  ⟨3, .comp, "d", 2, [1], [4], .comp false⟩, ⟨4, .field "points", "d", 2, [2], [], .ctr 2⟩,
  ⟨5, .comp, "d", 3, [3], [6], .comp false⟩, ⟨6, .field "points", "d", 3, [4], [], .ctr 3⟩,
  ⟨7, .comp, "d", 4, [5], [8], .comp false⟩, ⟨8, .field "points", "d", 4, [6], [], .ctr 4⟩]

example : [1, 3, 5, 7].map (fun c => (versionedVals chain c).ctr "points") = [some 1, some 3, some 6, some 10] := by
  decide

end Defra.Props.C03
