import DefraModel.Proofs.EncryptInv

/-!
# C11 — encrypted fields never leave the node in clear

About the block-encryption model (`DefraModel/Encrypt.lean`), for every creation configuration, every set of fields
written at creation and every later history of updates, deletes and merges of concurrent unencrypted heads: what the
node writes for an encrypted document or field links a key (the full field-level statement is refuted: known finding),
and what a receiver stores and sees as a function of the keys it holds. The statements speak of the blocks the node
wrote itself (`remote = false`): a twin document created elsewhere without encryption is in clear by construction.
-/
namespace Defra.Encrypt

/-- **Document-level encryption.** After any history every field block the node wrote carries an encryption link,
    also for fields first set by a later update. -/
theorem doc_encrypted_never_clear (c : Cfg) (hd : c.isDoc = true) (fs : List FName) (ops : List Op) :
    ∀ b ∈ (run (some c) fs ops).blocks, b.remote = false → b.field.isSome → b.plain = none :=
  fun b hb hr hf => plain_eq_none ((run_docLevel c hd fs ops).docInv.blocks b hb hr hf)

/-- **Field-level encryption (partial).** For a field named in the configuration AND written by the creating
    save, every block the node ever writes for it carries an encryption link. Missing for the full statement: a named
    field that the creating save does not write (`field_listed_unset_written_clear`). -/
theorem field_encrypted_never_clear_partial (c : Cfg) (f : FName) (hf : c.fields.contains f = true)
    (fs : List FName) (hm : f ∈ fs) (ops : List Op) :
    ∀ b ∈ (run (some c) fs ops).blocks, b.remote = false → b.field = some f → b.plain = none :=
  fun b hb hr hfb => plain_eq_none ((run_fieldInv c f hf fs hm ops).blocks b hb hr hfb)

/-- The full field-level statement fails: field `b` is named in the configuration, the creating save writes only
    `a`, a later update writes `b` — in clear. The same history on the implementation is the known finding
    `field-level-first-set-by-update`. -/
theorem field_listed_unset_written_clear :
    ∃ b ∈ (run (some ⟨false, ["b"]⟩) ["a"] [.update ["b"]]).blocks,
      b.remote = false ∧ b.field = some "b" ∧ b.plain = some (1, "b") := by
  refine ⟨⟨some "b", 1, none, false⟩, ?_, rfl, rfl, rfl⟩
  decide

/-- **a receiver stores only what it can read**: every value a node holding the key blocks `keys` writes to its own
    stores comes from a field block that is in clear in the shared store or whose linked key the node holds -/
theorem receiver_stores_only_readable (keys : List Key) (blocks : List Blk) :
    ∀ p ∈ stored keys blocks, ∃ b ∈ blocks, b.field = some p.2 ∧ b.op = p.1 ∧
      (b.enc = none ∨ ∃ k ∈ keys, b.enc = some k) := by
  intro p hp
  obtain ⟨b, hb, hf, ho, hc⟩ := mem_stored.mp hp
  refine ⟨b, hb, hf, ho, ?_⟩
  cases he : b.enc with
  | none => exact .inl rfl
  | some k => exact .inr ⟨k, canRead_iff.mp hc k he, rfl⟩

/-- **a value under a key the receiver does not hold is never stored**, whatever else it holds -/
theorem unheld_key_never_stored (keys : List Key) (blocks : List Blk) (k : Key) (hk : k ∉ keys)
    (op : Nat) (f : FName)
    (hall : ∀ b ∈ blocks, b.field = some f → b.op = op → b.enc = some k) : (op, f) ∉ stored keys blocks := by
  intro hp
  obtain ⟨b, hb, hf, ho, hc⟩ := mem_stored.mp hp
  exact hk (canRead_iff.mp hc k (hall b hb hf ho))

/-- more keys never lose a value: what a receiver stores grows with the keys it holds -/
theorem more_keys_more_stored (keys keys' : List Key) (hsub : ∀ k ∈ keys, k ∈ keys') (blocks : List Blk) :
    ∀ p ∈ stored keys blocks, p ∈ stored keys' blocks := by
  intro p hp
  obtain ⟨b, hb, hf, ho, hc⟩ := mem_stored.mp hp
  exact mem_stored.mpr ⟨b, hb, hf, ho, canRead_iff.mpr fun k he => hsub k (canRead_iff.mp hc k he)⟩

/-- **a holder of every linked key reads everything**: its stores receive the value of every field block -/
theorem all_keys_store_everything (keys : List Key) (blocks : List Blk)
    (hall : ∀ b ∈ blocks, ∀ k, b.enc = some k → k ∈ keys) :
    stored keys blocks = blocks.filterMap (fun b => b.field.map (fun f => (b.op, f))) := by
  unfold stored
  induction blocks with
  | nil => rfl
  | cons b rest ih =>
    rw [List.filterMap_cons, List.filterMap_cons, ih fun b' hb' => hall b' (List.mem_cons_of_mem _ hb'),
      canRead_iff.mpr (hall b List.mem_cons_self)]
    cases b.field <;> rfl

/-- **Key-less receiver.** Everything a node without keys writes to its own stores comes from a block that is in
    clear in the shared store. -/
theorem keyless_stores_only_clear (blocks : List Blk) :
    ∀ p ∈ stored [] blocks, ∃ b ∈ blocks, b.plain = some p := by
  intro ⟨o, f⟩ hp
  obtain ⟨b, hb, hf, ho, he | ⟨k, hk, -⟩⟩ := receiver_stores_only_readable [] blocks (o, f) hp
  · exact ⟨b, hb, by rw [Blk.plain, hf, he, ho]⟩
  · cases hk

/-- Hence, of a document-level encrypted document, a key-less receiver stores no value the author wrote. -/
theorem keyless_stores_nothing_encrypted (c : Cfg) (hd : c.isDoc = true) (fs : List FName) (ops : List Op) :
    ∀ p ∈ stored [] ((run (some c) fs ops).blocks.filter (fun b => !b.remote)), False := by
  intro p hp
  obtain ⟨b, hb, hpl⟩ := keyless_stores_only_clear _ p hp
  obtain ⟨hb1, hb2⟩ := List.mem_filter.mp hb
  rw [doc_encrypted_never_clear c hd fs ops b hb1 (by simpa using hb2) (field_isSome_of_plain hpl)] at hpl
  cases hpl

/-- **a key-less receiver does not even see a document-level encrypted document**: every composite block the author
    wrote links a key (`DagInv` at the composite), so a node without keys can read no composite of the author's -/
theorem keyless_cannot_see_a_doc_encrypted_document (c : Cfg) (hd : c.isDoc = true) (fs : List FName) (ops : List Op) :
    docVisible [] ((run (some c) fs ops).blocks.filter (fun b => !b.remote)) = false := by
  unfold docVisible
  rw [List.any_eq_false]
  intro b hb hv
  obtain ⟨hb1, hb2⟩ := List.mem_filter.mp hb
  obtain ⟨hf, hc⟩ := Bool.and_eq_true_iff.mp hv
  have he := (run_docLevel c hd fs ops).comp.blocks b hb1 (by simpa using hb2) (Option.isNone_iff_eq_none.mp hf)
  cases hk : b.enc with
  | none => rw [hk] at he; cases he
  | some k => cases canRead_iff.mp hc k hk

/-- **Key holder.** Decrypting with the linked key what `encryptBlock` produced gives the written value back.
    Nothing is proved here: this is the soundness law assumed of AES-GCM (`Cipher.sound`) read through `roundTrip`. -/
theorem key_holder_reads_back {K P C} (c : Cipher K P C) (k : K) (p : P) : roundTrip c k p = some p :=
  c.sound k p

/-! ### non-vacuity -/

/-- document-level, field `b` first set by an update: encrypted with the composite's key -/
example : ((run (some ⟨true, []⟩) ["a"] [.update ["b"]]).blocks.map (fun b => (b.field, b.enc.isSome, b.plain))) =
    [(some "a", true, none), (none, true, none), (some "b", true, none), (none, true, none)] := by decide

/-- field-level with a concurrent unencrypted twin: the update still inherits the field key -/
example : ((run (some ⟨false, ["a"]⟩) ["a"] [.twin ["a"], .update ["a"]]).blocks.filter (fun b => !b.remote)).map
    (fun b => (b.field, b.enc.isSome)) = [(some "a", true), (none, false), (some "a", true), (none, false)] := by decide

/-- without encryption everything is clear -/
example : (run none ["a"] [.update ["a"]]).blocks.filterMap Blk.plain = [(0, "a"), (1, "a")] := by decide

/-- a receiver holding only the key of field `a` of a field-level encrypted document stores `a`, not `b` -/
example : stored [⟨0, some "a"⟩] (run (some ⟨false, ["a", "b"]⟩) ["a", "b"] []).blocks = [(0, "a")] := by decide
example : stored [⟨0, some "a"⟩, ⟨1, some "b"⟩] (run (some ⟨false, ["a", "b"]⟩) ["a", "b"] []).blocks = [(0, "a"), (0, "b")] := by decide

/-- document-level: invisible without keys, visible with the document key -/
example : docVisible [] (run (some ⟨true, []⟩) ["a"] [.update ["b"], .delete]).blocks = false ∧
    docVisible [⟨1, none⟩] (run (some ⟨true, []⟩) ["a"] [.update ["b"], .delete]).blocks = true := by decide

/-- the abstract cipher has a model -/
example : ∃ c : Cipher Nat Nat (Nat × Nat), ∀ k p, roundTrip c k p = some p :=
  ⟨⟨fun k p => (k, p), fun k c => if c.1 = k then some c.2 else none, by intro k p; simp⟩, by intro k p; simp [roundTrip]⟩

end Defra.Encrypt
