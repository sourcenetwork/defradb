import DefraModel.Proofs.Restart

/-!
# C14 — a node restarted on its store is indistinguishable from one that never stopped

For the persisted-state / cache model (`Restart.lean`) and every history of operations. The model writes the whole
in-memory state through on every operation, so the cache invariant holds by construction (`step_coherent`); hence
restarts, any number of them anywhere, change nothing. Index identifiers are never reused over any history; for
collections the counter facts are stated for one operation only.
-/
namespace Defra.Restart

theorem run_coherent (ops : List Op) : Coherent (run ops) :=
  List.foldlRecOn ops step (motive := Coherent) rfl fun n _ op _ => step_coherent n op

/-- **Opening the store contents as of any completed operation**: a second node opened on a copy of the store taken
    after any completed operation is in the state of the node that keeps running (what the engine's `crashcopy`
    operation compares on the implementation). -/
theorem open_on_store_copy_is_the_running_node (ops : List Op) : load (run ops).store = (run ops).mem :=
  (run_coherent ops).symm

def notRestart : Op → Bool
  | .restart => false
  | _ => true

/-- any number of restarts at any places -/
theorem restarts_invisible (ops : List Op) : run ops = run (ops.filter notRestart) := by
  unfold run
  have h0 : Coherent ({} : Node) := rfl
  generalize ({} : Node) = n at h0
  induction ops generalizing n with
  | nil => rfl
  | cons op t ih =>
    cases op with
    | restart => rw [List.foldl_cons, restart_noop n h0]; exact ih n h0
    | _ => exact ih _ (step_coherent n _)

theorem restart_invisible (before after : List Op) : run (before ++ [.restart] ++ after) = run (before ++ after) := by
  rw [restarts_invisible, restarts_invisible (before ++ after)]
  simp [List.filter_append, notRestart]

def nextIndexOf (n : Node) (col : String) : Nat := ((findCol n col).map (·.nextIndex)).getD 0

/-- the collection identifier counter never decreases, whatever the operation -/
theorem nextCol_mono (n : Node) (h : Coherent n) (op : Op) : n.mem.nextCol ≤ (step n op).mem.nextCol := by
  cases op with
  | restart => rw [restart_noop n h]; exact Nat.le_refl _
  | addCol name fields indexed =>
    simp only [step, applyMem]
    split
    · exact Nat.le_refl _
    · exact Nat.le_succ _
  | p2pAdd c | repSet t c => simp only [step, applyMem]; split <;> exact Nat.le_refl _
  | _ => exact Nat.le_refl _

/-- a collection created by `addCol` gets the counter's value, and the counter moves past it -/
theorem collection_ids_fresh (n : Node) (name : String) (fields indexed : List String)
    (hnew : n.mem.cols.any (·.name == name) = false) :
    (findCol (step n (.addCol name fields indexed)) name).map (·.shortId) = some n.mem.nextCol ∧
    (step n (.addCol name fields indexed)).mem.nextCol = n.mem.nextCol + 1 := by
  have hnone : n.mem.cols.find? (·.name == name) = none := List.find?_eq_none.mpr (List.any_eq_false.mp hnew)
  simp only [step, applyMem, hnew, Bool.false_eq_true, if_false, findCol]
  refine ⟨?_, trivial⟩
  rw [List.find?_append, hnone]
  simp [mkCol]

/-- **No identifier reuse.** An index created on a collection after any further history — drops, other creates,
    restarts — gets an identifier greater than one created before. -/
theorem index_ids_never_reused (before between : List Op) (col f : String) (c : Col)
    (hc : findCol (run before) col = some c) :
    ∃ c1 c2, findCol (run (before ++ [.createIndex col f])) col = some c1 ∧
      findCol (run (before ++ [.createIndex col f] ++ between)) col = some c2 ∧
      (c1.indexes.getLast?).map (·.id) = some c.nextIndex ∧ c.nextIndex < c2.nextIndex := by
  have hrun1 : run (before ++ [.createIndex col f]) = step (run before) (.createIndex col f) := List.foldl_append
  have hrun2 : run (before ++ [.createIndex col f] ++ between) = between.foldl step (run (before ++ [.createIndex col f])) :=
    List.foldl_append
  obtain ⟨c1, hc1, hn1, hid1⟩ := createIndex_issues (run before) col f c hc
  obtain ⟨c2, hc2, hle⟩ := nextIndex_mono_run _ (step_coherent _ _) between col c1 hc1
  rw [hrun2, hrun1]
  exact ⟨c1, c2, hc1, hc2, hid1, by omega⟩

/-! ### non-vacuity -/

example :
    let h := [Op.addCol "K3" ["a", "b"] ["a"], .createIndex "K3" "a", .dropIndex "K3" 1, .restart, .createIndex "K3" "a", .addCol "K1" ["n"] []]
    ((run h).mem.cols.map (fun c => (c.name, c.shortId, c.indexes.map (fun i => (i.name, i.id))))) =
      [("K3", 1, [("K3_a_ASC", 1), ("K3_a_ASC_2", 3)]), ("K1", 2, [])] ∧ run h = run (h.filter notRestart) := by
  intro h
  exact ⟨by decide, restarts_invisible h⟩

end Defra.Restart
