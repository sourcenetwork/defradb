/-
C02 — Every update is applied exactly once; nothing lost, nothing doubled.
Proved: the values are a fold of the applied deltas, one term per application; the merge walk hands every unmerged
ancestor of the delivered commit to the merge and none twice; `isMerged` decides exactly "head or ancestor of a head";
and, for `mergeDoc` itself, one delivered commit end to end, at the composite level and for the whole document with its
field blocks.
-/
import DefraModel.Proofs.CrdtAlgebra
import DefraModel.Proofs.CrdtWfCheck
namespace Defra.Props.C02
open Defra Defra.Crdt

/-- a counter is its initial value plus the increments of the applied commits, one term per application: "each merged
    commit counted once" is "the applied list is duplicate-free and enumerates the merged set" -/
theorem counter_is_sum (applied : List Block) (s : Vals) (f : String) :
    ((applied.foldl applyDelta s).ctr f).getD 0 = (s.ctr f).getD 0 + (applied.map (ctrOf f)).sum :=
  foldl_ctr applied s f

/-- the sum does not depend on the order of application -/
theorem counter_order_free (l₁ l₂ : List Block) (p : l₁.Perm l₂) (s : Vals) (f : String) :
    ((l₁.foldl applyDelta s).ctr f).getD 0 = ((l₂.foldl applyDelta s).ctr f).getD 0 := by
  rw [foldl_applyDelta_perm s l₁ l₂ p]

/-- a document is deleted exactly when it was deleted before or an applied commit deletes it -/
theorem deleted_iff (applied : List Block) (s : Vals) :
    (applied.foldl applyDelta s).marker = some true ↔
      (s.marker = some true ∨ ∃ b ∈ applied, isDelete b = true) := foldl_marker applied s

/-- ... and is never resurrected by anything applied later -/
theorem never_resurrected (later : List Block) (s : Vals) (h : s.marker = some true) :
    (later.foldl applyDelta s).marker = some true := (foldl_marker later s).mpr (Or.inl h)

/-- a register holds a value that was written, and no applied write is above it in (height, bytes) order -/
theorem register_holds_a_latest_write (applied : List Block) (f : String) (r : Nat × Bytes)
    (h : (applied.foldl applyDelta {}).lww f = some r) :
    (∃ b ∈ applied, lwwOf f b = some r) ∧
    (∀ b ∈ applied, ∀ x, lwwOf f b = some x → ple x r) := by
  constructor
  · rcases foldl_lww_mem applied {} f r h with h' | h'
    · cases h'
    · exact h'
  · intro b hb x hx
    obtain ⟨r', hr', hle⟩ := (foldl_lww_upper applied {} f).1 b hb x hx
    rw [h] at hr'; cases hr'; exact hle

/-- no applied write of the field is higher than the winner, so the winner is no ancestor of another applied write
    (ancestors are strictly lower: C04) -/
theorem winner_has_max_height (applied : List Block) (f : String) (r : Nat × Bytes)
    (h : (applied.foldl applyDelta {}).lww f = some r) (b : Block) (hb : b ∈ applied)
    (x : Nat × Bytes) (hx : lwwOf f b = some x) : x.1 ≤ r.1 := by
  have := (register_holds_a_latest_write applied f r h).2 b hb x hx
  unfold ple at this
  omega

/-- redelivery of a commit that is already merged changes nothing: the walk collects no block -/
theorem redelivery_is_noop (cx : Ctx) (r : Replica) (c : Block)
    (hget : cx.blocks.get? c.id = some c)
    (hm : isMerged cx.blocks (r.doc c.doc).heads c.id c.height = true) :
    (loadComposites cx.blocks (r.doc c.doc).heads (cx.blocks.length + 1) c.id ([], [])).1 = [] := by
  simp [loadComposites, hget, hm]

/-- **The walk hands every commit to the merge at most once**, in every block store (well-formed or not): the blocks
    `loadComposites` collects have pairwise distinct identifiers, and so has the sorted list actually applied. With
    `counter_is_sum`: nothing doubled. -/
theorem walk_applies_each_commit_at_most_once (bs : Blocks) (heads : List Nat) (c : Nat) :
    ((loadComposites bs heads (bs.length + 1) c ([], [])).1.map (·.id)).Nodup ∧
    ((sortByHeight (loadComposites bs heads (bs.length + 1) c ([], [])).1).map (·.id)).Nodup := by
  have h := (loadComposites_collected bs heads c (bs.length + 1) c ([], []) .self ⟨List.nodup_nil, fun _ h => nomatch h⟩).1
  exact ⟨h, ((sortByHeight_perm _).map _).nodup_iff.mpr h⟩

/-- **Nothing is skipped that was not merged**: a commit `isMerged` reports as merged, so that the walk does not descend
    into it, is one of the document's heads or an ancestor of one, in every block store. -/
theorem walk_skips_only_merged (bs : Blocks) (heads : List Nat) (target height : Nat)
    (h : isMerged bs heads target height = true) : Reach bs heads target :=
  isMerged_sound bs heads target height h

/-- **Nothing unmerged is missed**: every available, unmerged commit reached from the delivered one through such commits
    is collected for merging. In every block store: no acyclicity or height assumption, the fuel `length + 1` suffices. -/
theorem walk_reaches_every_unmerged_ancestor (bs : Blocks) (heads : List Nat) (c x : Nat) (hp : UPath bs heads c x)
    (b : Block) (hb : bs.get? x = some b) (hnm : isMerged bs heads x b.height = false) :
    b ∈ (loadComposites bs heads (bs.length + 1) c ([], [])).1 :=
  walk_reaches bs heads c x hp b hb hnm

/-- **A merged commit is always recognised (nothing doubled)**: in a well-formed block store (every parent stored and
    strictly lower: C04) `isMerged` decides exactly "head or ancestor of a head", so the walk never collects a merged
    commit again. The fuel `length + 2` suffices because heights strictly decrease along a path. -/
theorem merged_commit_is_recognised (bs : Blocks) (wf : WellFormed bs) (heads : List Nat) (t : Nat) (tb : Block)
    (ht : bs.get? t = some tb) : isMerged bs heads t tb.height = true ↔ Reach bs heads t :=
  isMerged_iff bs wf heads t tb ht

/-- a well-formed store exists and the statement is not vacuous: the diamond 1 <- {2, 3} <- 4 -/
def diamondStore : Blocks :=
  [⟨1, .comp, "d", 1, [], [], .comp false⟩, ⟨2, .comp, "d", 2, [1], [], .comp false⟩,
   ⟨3, .comp, "d", 2, [1], [], .comp false⟩, ⟨4, .comp, "d", 3, [2, 3], [], .comp false⟩]

example : isMerged diamondStore [4] 1 1 = true ∧ isMerged diamondStore [2] 3 2 = false ∧
    ((loadComposites diamondStore [2] 5 4 ([], [])).1.map (·.id)) = [3, 4] := by decide

/-- **One delivered commit, end to end.** `mergeDoc`, the model of `executeMerge` that `drv crdt` runs in lock-step with
    the implementation, on a store passing `wfCheck` and heads passing `headsCheck` (both evaluated by `drv crdt` on
    the stores of the run): the blocks applied (`news`) are exactly `c` and its ancestors not merged before, each once,
    parents first; the delete marker is the fold of exactly these; the merged set afterwards is the old one plus `c` and
    its ancestors; the heads are again distinct stored composites. -/
theorem merge_applies_exactly_the_unmerged_ancestors_once (cx : Ctx) (hwf : wfCheck cx.blocks = true)
    (hknown : ∀ l, (cx.blocks.get? l).isSome = true → cx.known l = true)
    (r : Replica) (c : Block) (hc : cx.blocks.get? c.id = some c) (hck : c.kind = .comp)
    (hh : headsCheck cx.blocks (r.doc c.doc).heads = true) :
    ∃ news : List Block,
      (news.map (·.id)).Nodup ∧
      news.Pairwise (fun x y => x.height ≤ y.height) ∧
      (∀ b, b ∈ news ↔ (cx.blocks.get? b.id = some b ∧ Anc cx.blocks c.id b.id ∧
        ¬ Reach cx.blocks (r.doc c.doc).heads b.id)) ∧
      ((mergeDoc cx r c).doc c.doc).vals.marker =
        news.foldl (fun m b => markerOf b m) (r.doc c.doc).vals.marker ∧
      (∀ t, Reach cx.blocks ((mergeDoc cx r c).doc c.doc).heads t ↔
        (Reach cx.blocks (r.doc c.doc).heads t ∨ (Anc cx.blocks c.id t ∧ ∃ b, cx.blocks.get? t = some b))) ∧
      HInv cx.blocks ((mergeDoc cx r c).doc c.doc).heads := by
  obtain ⟨w, h1, h2, h3⟩ := mergeDoc_comp cx (wfCheck_sound cx.blocks hwf) hknown r c hc hck
    (headsCheck_sound cx.blocks _ hh)
  exact ⟨_, w.nodup, w.sorted, w.mem, h1, h2, h3⟩

/-- the blocks one delivery processes: the commit and its not yet merged ancestors (parents first), each followed by
    the stored blocks it links -/
def deliverySeq (cx : Ctx) (r : Replica) (c : Block) : List Block :=
  flatSeq cx.blocks
    (sortByHeight (loadComposites cx.blocks (r.doc c.doc).heads (cx.blocks.length + 1) c.id ([], [])).1)

/-- the blocks one delivery applies: of `deliverySeq`, those not merged before, first occurrences (equal field blocks
    are one content-addressed block and may be linked by several composites) -/
def appliedBlocks (cx : Ctx) (r : Replica) (c : Block) : List Block :=
  appliedSeq cx.blocks (r.doc c.doc) (deliverySeq cx r c)

/-- the applied blocks have pairwise distinct identifiers -/
theorem appliedBlocks_nodup (cx : Ctx) (r : Replica) (c : Block) : ((appliedBlocks cx r c).map (·.id)).Nodup :=
  appliedSeq_nodup cx.blocks (r.doc c.doc) (deliverySeq cx r c)

/-- an applied block is a processed block that was not merged before the delivery -/
theorem appliedBlocks_sound (cx : Ctx) (r : Replica) (c : Block) (x : Block) (h : x ∈ appliedBlocks cx r c) :
    x ∈ deliverySeq cx r c ∧ unmergedAt cx.blocks (r.doc c.doc) x = true :=
  mem_appliedSeq h

/-- every processed block that was not merged before the delivery is applied (equal identifiers: one block) -/
theorem appliedBlocks_complete (cx : Ctx) (r : Replica) (c : Block) (x : Block) (hx : x ∈ deliverySeq cx r c)
    (hu : unmergedAt cx.blocks (r.doc c.doc) x = true) : ∃ y ∈ appliedBlocks cx r c, y.id = x.id :=
  (exists_mem_appliedSeq cx.blocks (r.doc c.doc) (deliverySeq cx r c) x.id).mpr ⟨x, hx, rfl, hu⟩

/-- **One delivered commit, end to end, the whole document.** On a store passing `wfCheck3` and a document state passing
    `kinvCheck` and `linkInvCheck` (all evaluated by `drv crdt` on the run): every head set, the composite one and each
    field's, afterwards reaches what it reached before plus the processed blocks of its kind; the values (delete marker,
    registers, counters) are the old ones with the deltas of `appliedBlocks`: the processed blocks not merged before,
    each once. -/
theorem merge_end_to_end_whole_document (cx : Ctx) (hwf : wfCheck3 cx.blocks = true)
    (hknown : ∀ l, (cx.blocks.get? l).isSome = true → cx.known l = true)
    (r : Replica) (c : Block) (hc : cx.blocks.get? c.id = some c) (hck : c.kind = .comp)
    (hk : kinvCheck cx.blocks (r.doc c.doc) = true) (hli : linkInvCheck cx.blocks (r.doc c.doc) = true) :
    (∀ k t, Reach cx.blocks (headsOf ((mergeDoc cx r c).doc c.doc) k) t ↔
      (Reach cx.blocks (headsOf (r.doc c.doc) k) t ∨ ∃ b ∈ deliverySeq cx r c, b.id = t ∧ b.kind = k)) ∧
    ((mergeDoc cx r c).doc c.doc).vals = (appliedBlocks cx r c).foldl applyDelta (r.doc c.doc).vals ∧
    KInv cx.blocks ((mergeDoc cx r c).doc c.doc) := by
  have swf := wfCheck3_sound cx.blocks hwf
  obtain ⟨_, _, h3, h4, h5, _⟩ := mergeDoc_full_inv cx swf hknown (fun _ => True) (fun _ _ _ _ => trivial) r c hc hck
    (kinvCheck_sound _ _ hk) (linkInvCheck_sound _ swf.base2.base.wf _ hli) trivial
  exact ⟨h4, h5, h3⟩

/-- **Nothing lost, nothing doubled, for counters**: after a delivery a counter is its value before plus the increments
    of the applied blocks, one term per block. -/
theorem counter_gains_each_new_increment_once (cx : Ctx) (hwf : wfCheck3 cx.blocks = true)
    (hknown : ∀ l, (cx.blocks.get? l).isSome = true → cx.known l = true)
    (r : Replica) (c : Block) (hc : cx.blocks.get? c.id = some c) (hck : c.kind = .comp)
    (hk : kinvCheck cx.blocks (r.doc c.doc) = true) (hli : linkInvCheck cx.blocks (r.doc c.doc) = true) (f : String) :
    ((((mergeDoc cx r c).doc c.doc).vals).ctr f).getD 0 =
      (((r.doc c.doc).vals).ctr f).getD 0 + ((appliedBlocks cx r c).map (ctrOf f)).sum := by
  rw [(merge_end_to_end_whole_document cx hwf hknown r c hc hck hk hli).2.1]
  exact foldl_ctr _ _ f

/-- the hypotheses are met by a concrete store, and the walk applies `3, 4` on top of heads `[2]` -/
example : wfCheck diamondStore = true ∧ headsCheck diamondStore [2] = true := by decide

/-- a store with field blocks: two commits of one document, each linking an increment of `points` -/
def counterStore : Blocks :=
  [⟨1, .comp, "d", 1, [], [2], .comp false⟩, ⟨2, .field "points", "d", 1, [], [], .ctr 1⟩,
   ⟨3, .comp, "d", 2, [1], [4], .comp false⟩, ⟨4, .field "points", "d", 2, [2], [], .ctr 10⟩]

example : wfCheck3 counterStore = true ∧ kinvCheck counterStore {} = true ∧ linkInvCheck counterStore {} = true := by
  decide

/-! non-vacuity -/
def inc1 : Block := ⟨2, .field "points", "d", 1, [], [], .ctr 1⟩
def inc10 : Block := ⟨4, .field "points", "d", 2, [2], [], .ctr 10⟩
example : (([inc1, inc10].foldl applyDelta {}).ctr "points").getD 0 = 11 := by decide

end Defra.Props.C02
