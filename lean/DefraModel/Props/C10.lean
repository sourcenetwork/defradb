import DefraModel.Acp

/-!
# C10 — documents you may not read are invisible through every query path

For the access-control model (`DefraModel/Acp.lean`): every access path — scan, scan with deleted documents, index
lookup, by-identifier read, time travel to a document's or a collection's commit, both join directions, count, the
commit history and its entry at a named commit — answers as on the database that never contained the documents the
requester cannot read. A mutation attempt on such a document is answered like one on a missing document and changes
nothing, as does a create over an existing document. The record a grant writes is readable by the grantee; a
requester holding no relation on a registered document cannot read it.
-/
namespace Defra.Acp

theorem restrict_idem (w : Who) (db : DB) : restrict w (restrict w db) = restrict w db := by
  simp [restrict, List.filter_filter]

/-- every path below is rewritten into a function of `restrict w db` with these two -/
theorem filter_and_read (w : Who) (db : DB) (p : Doc → Bool) :
    db.filter (fun d => p d && canRead w d) = (restrict w db).filter p := by
  rw [restrict, List.filter_filter]

theorem filter_then_read (w : Who) (db : DB) (p : Doc → Bool) :
    (db.filter p).filter (canRead w) = (restrict w db).filter p := by
  rw [restrict, List.filter_filter, List.filter_filter]
  exact List.filter_congr fun d _ => Bool.and_comm _ _

theorem scan_ignores_unreadable (w : Who) (db : DB) (col : Nat) : scan w db col = scan w (restrict w db) col := by
  simp only [scan, filter_and_read, restrict_idem]

theorem scanAll_ignores_unreadable (w : Who) (db : DB) (col : Nat) :
    scanAll w db col = scanAll w (restrict w db) col := by
  simp only [scanAll, filter_and_read, restrict_idem]

theorem indexLookup_ignores_unreadable (w : Who) (db : DB) (v : String) :
    indexLookup w db v = indexLookup w (restrict w db) v := by
  simp only [indexLookup, indexEntries, filter_then_read, restrict_idem]

theorem byId_ignores_unreadable (w : Who) (db : DB) (l : String) : byId w db l = byId w (restrict w db) l := by
  simp only [byId, filter_then_read, restrict_idem]

theorem timeTravel_ignores_unreadable (w : Who) (db : DB) (l : String) :
    timeTravel w db l = timeTravel w (restrict w db) l := by
  simp only [timeTravel, filter_then_read, restrict_idem]

theorem timeTravelCollection_ignores_unreadable (w : Who) (db : DB) (col : Nat) :
    timeTravelCollection w db col = timeTravelCollection w (restrict w db) col := by
  simp only [timeTravelCollection, filter_then_read, restrict_idem]

theorem count_ignores_unreadable (w : Who) (db : DB) (col : Nat) : count w db col = count w (restrict w db) col := by
  unfold count
  rw [scan_ignores_unreadable]

theorem commitsByCid_ignores_unreadable (w : Who) (db : DB) (l : String) :
    commitsByCid w db l = commitsByCid w (restrict w db) l := by
  simp only [commitsByCid, filter_then_read, restrict_idem]

theorem commits_ignores_unreadable (w : Who) (db : DB) : commits w db = commits w (restrict w db) := by
  rw [commits, commits, ← restrict, ← restrict, restrict_idem]

theorem joinChildren_ignores_unreadable (w : Who) (db : DB) :
    joinChildren w db = joinChildren w (restrict w db) := by
  simp only [joinChildren, filter_and_read, filter_then_read, restrict_idem]

theorem joinParent_ignores_unreadable (w : Who) (db : DB) :
    joinParent w db = joinParent w (restrict w db) := by
  simp only [joinParent, filter_and_read, filter_then_read, restrict_idem]

/-- Inserting a document the requester cannot read, anywhere, does not change the restricted database — hence (by
    the theorems above) no access path's answer. -/
theorem unreadable_insert_invisible (w : Who) (db1 db2 : DB) (d : Doc) (h : canRead w d = false) :
    restrict w (db1 ++ d :: db2) = restrict w (db1 ++ db2) := by
  simp [restrict, List.filter_append, h]

/-- Two databases that agree on what the requester can read answer alike on the nine paths listed; so do
    `timeTravelCollection` and `commitsByCid`, by their `_ignores_unreadable` theorems in the same way. -/
theorem same_readable_same_answers (w : Who) (db db' : DB) (h : restrict w db = restrict w db') (col : Nat) (v l : String) :
    scan w db col = scan w db' col ∧ scanAll w db col = scanAll w db' col ∧ indexLookup w db v = indexLookup w db' v ∧
    byId w db l = byId w db' l ∧ timeTravel w db l = timeTravel w db' l ∧ joinChildren w db = joinChildren w db' ∧
    joinParent w db = joinParent w db' ∧ count w db col = count w db' col ∧ commits w db = commits w db' := by
  have key : ∀ {β : Type} (X : DB → β), (∀ db, X db = X (restrict w db)) → X db = X db' :=
    fun X hX => by rw [hX, h, ← hX]
  exact ⟨key _ (scan_ignores_unreadable w · col), key _ (scanAll_ignores_unreadable w · col),
    key _ (indexLookup_ignores_unreadable w · v), key _ (byId_ignores_unreadable w · l),
    key _ (timeTravel_ignores_unreadable w · l), key _ (joinChildren_ignores_unreadable w),
    key _ (joinParent_ignores_unreadable w), key _ (count_ignores_unreadable w · col),
    key _ (commits_ignores_unreadable w)⟩

theorem denied_update_changes_nothing (db : DB) (w : Who) (l : String) (nm : Option String) (d : Doc)
    (hf : find db l = some d) (hp : canUpdate w d = false) :
    step db (.update w l nm) = (db, .denied) := by
  simp [step, hf, hp]

theorem denied_delete_changes_nothing (db : DB) (w : Who) (l : String) (d : Doc)
    (hf : find db l = some d) (hp : canDelete w d = false) :
    step db (.delete w l) = (db, .denied) := by
  simp [step, hf, hp]

/-- the answer to a mutation attempt on a document that does not exist -/
theorem absent_update_denied (db : DB) (w : Who) (l : String) (nm : Option String) (hf : find db l = none) :
    step db (.update w l nm) = (db, .denied) := by
  simp [step, hf]

theorem absent_delete_denied (db : DB) (w : Who) (l : String) (hf : find db l = none) :
    step db (.delete w l) = (db, .denied) := by
  simp [step, hf]

/-- a requester that cannot read a document can neither update nor delete it (the policy's expressions) -/
theorem unreadable_not_writable (w : Who) (d : Doc) (h : canRead w d = false) :
    canUpdate w d = false ∧ canDelete w d = false := by
  unfold canRead at h
  unfold canUpdate canDelete
  simp only [Bool.or_eq_false_iff] at h ⊢
  obtain ⟨⟨⟨⟨hreg, hown⟩, -⟩, hupd⟩, hdel⟩ := h
  exact ⟨⟨⟨hreg, hown⟩, hupd⟩, ⟨⟨hreg, hown⟩, hdel⟩⟩

/-- Hence an attempt on an unreadable document is answered exactly like an attempt on a missing one, and changes
    nothing. -/
theorem unreadable_mutation_like_absent (db : DB) (w : Who) (l : String) (nm : Option String) (d : Doc)
    (hf : find db l = some d) (h : canRead w d = false) :
    step db (.update w l nm) = (db, .denied) ∧ step db (.delete w l) = (db, .denied) :=
  ⟨denied_update_changes_nothing db w l nm d hf (unreadable_not_writable w d h).1,
   denied_delete_changes_nothing db w l d hf (unreadable_not_writable w d h).2⟩

/-- **a create that addresses an existing document changes nothing**, whoever asks and whether or not they may read
    it (a document's identifier is a function of its initial content, so any requester who knows that content can
    address it) -/
theorem create_over_existing_changes_nothing (db : DB) (d e : Doc) (hf : find db d.label = some e) :
    step db (.create d) = (db, .error) := by
  simp [step, hf]

/-- a create that judges existence through the requester's read permission (`createPinned`) lets a requester without
    identity reset a document it may not read; `step` refuses it -/
theorem pinned_create_resets_a_private_document :
    let private_ : Doc := { label := "a", col := 0, registered := true, name := "updated" }
    let again : Doc := { label := "a", col := 0, registered := false, name := "initial" }
    canRead .anon private_ = false ∧
    (createPinned .anon [private_] again).2 = .ok ∧
    ((createPinned .anon [private_] again).1.map (·.name)) = ["initial"] ∧
    step [private_] (.create again) = ([private_], .error) := by
  decide

/-- the record the grant branch of `step` writes for `t = .actor n` is readable by the grantee, whatever the relation -/
theorem grant_visible_next (d : Doc) (n : Nat) (r : Rel) :
    canRead (.actor n) { d with grants := (.actor n, r) :: d.grants.filter (· != (.actor n, r)) } = true := by
  have h : holds { d with grants := (.actor n, r) :: d.grants.filter (· != (.actor n, r)) } (.actor n) r = true := by
    simp [holds]
  unfold canRead
  cases r <;> simp [h]

theorem not_holds_after_revoke (d : Doc) (n : Nat) (r : Rel) (hall : d.grants.contains (.all, r) = false) :
    holds { d with grants := d.grants.filter (· != (.actor n, r)) } (.actor n) r = false := by
  have hall' : (Target.all, r) ∉ d.grants := by simpa using hall
  simp [holds, hall']

/-- a requester that holds no relation on a registered document, directly or through a grant to everybody, cannot read
    it; for the relation the revoke branch of `step` removes, `not_holds_after_revoke` gives the hypothesis -/
theorem revoke_invisible_next (d : Doc) (n : Nat) (hreg : d.registered = true)
    (hnone : ∀ r, holds d (.actor n) r = false) : canRead (.actor n) d = false := by
  unfold canRead
  simp [hreg, hnone]

/-! ### non-vacuity -/

def sampleDB : DB :=
  [ { label := "a0", col := 0, registered := false, name := "ann" },
    { label := "a1", col := 0, registered := true, name := "ann" },
    { label := "b0", col := 1, registered := false, parent := some "a1" },
    { label := "b1", col := 1, registered := true, parent := some "a0", grants := [(.actor 0, .reader)] } ]

example : scan (.actor 1) sampleDB 0 = ["a0"] ∧ indexLookup (.actor 1) sampleDB "ann" = ["a0"] ∧
    joinParent (.actor 1) sampleDB = [] ∧ joinChildren (.actor 0) sampleDB = [("a0", "b1")] ∧
    commits .anon sampleDB = ["a0", "b0"] ∧ scan .owner sampleDB 1 = ["b0", "b1"] := by decide

example : (step sampleDB (.update (.actor 1) "a1" (some "x"))).2 = .denied ∧
    (step sampleDB (.update .anon "a0" (some "x"))).2 = .ok ∧
    (step sampleDB (.grant "a0" (.actor 0) .reader)).2 = .error := by decide

end Defra.Acp
