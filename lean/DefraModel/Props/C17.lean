/-
C17 — Index key encoding preserves value order and loses nothing.
For ALL values in the Go types' ranges (`Val.Wf`): keys embed the value order `Val.lt` or reverse it at a differing
byte, null first, composites lexicographically; int, string, time, bool and null decode to what was written.
-/
import DefraModel.Encoding.FieldValue
import DefraModel.Index.Range
import DefraModel.Proofs.ScalarOrder
import DefraModel.Proofs.PrefixEnd
namespace Defra.Props.C17
open Defra Defra.Enc Defra.Bytes

/-- the Go type's range / what the writer can produce -/
def JScalar.Wf : JScalar → Prop
  | .str s => IsBytes s
  | .num u => u < 2 ^ 64 ∧ f64.isNaN u = false
  | .bool _ => True
  | .null => True

def Val.Wf : Val → Prop
  | .null => True
  | .bool _ => True
  | .int i => -(2 ^ 63) ≤ i ∧ i < 2 ^ 63
  | .f32 u => u < 2 ^ 32 ∧ f32.isNaN u = false
  | .f64 u => u < 2 ^ 64 ∧ f64.isNaN u = false
  | .str s => IsBytes s
  | .time s n => (-(2 ^ 63) ≤ s ∧ s < 2 ^ 63) ∧ 0 ≤ n ∧ n < 1000000000
  | .json _ v => JScalar.Wf v

/-- the order of the values themselves: null first, then the natural order of the kind
    (IEEE order for floats with `-0 = +0`; `bytes.Compare` for strings; (seconds, nanoseconds)
    for times; JSON scalars of one kind under one path) -/
def Val.lt : Val → Val → Prop
  | .null, .null => False
  | .null, _ => True
  | .bool a, .bool b => a = false ∧ b = true
  | .int a, .int b => a < b
  | .f32 a, .f32 b => f32.key a < f32.key b
  | .f64 a, .f64 b => f64.key a < f64.key b
  | .str a, .str b => Bytes.lt a b = true
  | .time s n, .time s' n' => s < s' ∨ (s = s' ∧ n < n')
  | .json p (.str a), .json q (.str b) => p = q ∧ Bytes.lt a b = true
  | .json p (.num a), .json q (.num b) => p = q ∧ f64.key a < f64.key b
  | .json p (.bool a), .json q (.bool b) => p = q ∧ a = false ∧ b = true
  | _, _ => False

/-- every non-null value starts with a marker strictly between the two null markers -/
theorem fieldValue_head (d : Bool) (v : Val) (hv : v ≠ .null) : ∃ t r, fieldValue d v = t :: r ∧ 0 < t ∧ t < 255 := by
  cases v with
  | null => exact absurd rfl hv
  | bool b => cases d <;> cases b <;> exact ⟨_, _, rfl, by decide⟩
  | int i =>
    obtain ⟨t, w, x, e, h⟩ := varintAsc_form (if d then inot i else i)
    exact ⟨t, _, by cases d <;> exact e, by simp only [IntMin, IntMax] at h; omega⟩
  | f32 u => obtain ⟨t, w, x, e, h⟩ := float_form f32 f32_good d u; exact ⟨t, _, e, h⟩
  | f64 u => obtain ⟨t, w, x, e, h⟩ := float_form f64 f64_good d u; exact ⟨t, _, e, h⟩
  | str s => cases d <;> exact ⟨_, _, rfl, by decide⟩
  | time s n => cases d <;> exact ⟨_, _, rfl, by decide⟩
  | json p x => exact ⟨_, _, rfl, by decide⟩

/-- ordered JSON values share the path, hence the prefix `jsonPath p ++ [0x2f]` -/
theorem jsonEnc_mono (d : Bool) (p q : List JPart) (x y : JScalar) (hx : JScalar.Wf x) (hy : JScalar.Wf y)
    (h : Val.lt (.json p x) (.json q y)) :
    if d then slt (jsonEnc d q y) (jsonEnc d p x) = true else slt (jsonEnc d p x) (jsonEnc d q y) = true := by
  cases x <;> cases y <;> try exact h.elim
  case str.str a b =>
    obtain ⟨rfl, h⟩ := h
    cases d
    · exact (slt_prefix (jsonPath p ++ [0x2f]) _ _).trans (bytesAsc_mono a b h)
    · exact (slt_prefix (jsonPath p ++ [0x2f]) _ _).trans (bytesDesc_anti a b hx hy h)
  case num.num a b =>
    obtain ⟨rfl, h⟩ := h
    cases d
    · exact (slt_prefix (jsonPath p ++ [0x2f]) _ _).trans (floatAsc_mono f64 f64_good a b hx.1 hy.1 hx.2 hy.2 h)
    · exact (slt_prefix (jsonPath p ++ [0x2f]) _ _).trans (floatDesc_anti f64 f64_good a b hx.1 hy.1 hx.2 hy.2 h)
  case bool.bool a b =>
    obtain ⟨rfl, rfl, rfl⟩ := h
    cases d <;> exact (slt_prefix (jsonPath p ++ [0x2f]) _ _).trans (by decide)

/-- `asc_mono` and `desc_anti` through one dispatch over the kinds -/
theorem enc_mono (d : Bool) (a b : Val) (ha : Val.Wf a) (hb : Val.Wf b) (h : Val.lt a b) :
    if d then slt (fieldValue d b) (fieldValue d a) = true else slt (fieldValue d a) (fieldValue d b) = true := by
  cases a
  case null =>
    obtain ⟨t, r, e, h0, h255⟩ := fieldValue_head d b (by rintro rfl; exact h)
    cases d
    · exact e ▸ slt_of_head_lt h0 [] r
    · exact e ▸ slt_of_head_lt h255 r []
  case json p x =>
    cases b
    case json q y => exact jsonEnc_mono d p q x y ha hb h
    all_goals cases x <;> exact h.elim
  -- `Val.lt` across kinds reduces to `False`
  all_goals cases b <;> try exact h.elim
  case bool.bool x y => obtain ⟨rfl, rfl⟩ := h; cases d <;> decide
  case int.int x y =>
    cases d
    · exact varintAsc_mono x y ha.1 hb.2 h
    · exact varintDesc_anti x y ha.1 hb.2 h
  case f32.f32 x y =>
    cases d
    · exact floatAsc_mono f32 f32_good x y ha.1 hb.1 ha.2 hb.2 h
    · exact floatDesc_anti f32 f32_good x y ha.1 hb.1 ha.2 hb.2 h
  case f64.f64 x y =>
    cases d
    · exact floatAsc_mono f64 f64_good x y ha.1 hb.1 ha.2 hb.2 h
    · exact floatDesc_anti f64 f64_good x y ha.1 hb.1 ha.2 hb.2 h
  case str.str x y =>
    cases d
    · exact bytesAsc_mono x y h
    · exact bytesDesc_anti x y ha hb h
  case time.time s n s' n' =>
    cases d
    · exact timeAsc_mono s n s' n' ha.1.1 hb.1.2 (nanos_lower ha.2.1) (nanos_upper hb.2.2) h
    · exact timeDesc_anti s n s' n' ha.1.1 hb.1.2 (nanos_lower ha.2.1) (nanos_upper hb.2.2) h

/-- **ascending keys are an order embedding**: a smaller value's key is decided smaller at a differing byte, whatever
    follows either key -/
theorem asc_mono (a b : Val) (ha : Val.Wf a) (hb : Val.Wf b) (h : Val.lt a b) :
    slt (fieldValue false a) (fieldValue false b) = true := enc_mono false a b ha hb h

/-- **descending keys reverse the order** (null last) -/
theorem desc_anti (a b : Val) (ha : Val.Wf a) (hb : Val.Wf b) (h : Val.lt a b) :
    slt (fieldValue true b) (fieldValue true a) = true := enc_mono true a b ha hb h

/-- byte order of ascending keys **is** value order where the values are ordered or share a key (`tri`) -/
theorem lt_iff_enc_lt (a b : Val) (ha : Val.Wf a) (hb : Val.Wf b)
    (tri : Val.lt a b ∨ fieldValue false a = fieldValue false b ∨ Val.lt b a) :
    Val.lt a b ↔ Bytes.lt (fieldValue false a) (fieldValue false b) = true :=
  lt_iff_of_slt (asc_mono a b ha hb) (asc_mono b a hb ha) tri

/-- the same for descending keys; `tri` asks for equal DESCENDING keys -/
theorem desc_reverses (a b : Val) (ha : Val.Wf a) (hb : Val.Wf b)
    (tri : Val.lt a b ∨ fieldValue true a = fieldValue true b ∨ Val.lt b a) :
    Val.lt a b ↔ Bytes.lt (fieldValue true b) (fieldValue true a) = true :=
  lt_iff_of_slt (desc_anti a b ha hb) (desc_anti b a hb ha) (tri.imp_right (Or.imp_left Eq.symm))

/-- the `tri` of `lt_iff_enc_lt` (equal ASCENDING keys) within a kind; none for descending keys, booleans, JSON -/
theorem tri_int (a b : Int) : Val.lt (.int a) (.int b) ∨ fieldValue false (.int a) = fieldValue false (.int b) ∨ Val.lt (.int b) (.int a) :=
  (Int.lt_trichotomy a b).imp_right (Or.imp_left (congrArg fun x => fieldValue false (.int x)))

theorem tri_f64 (a b : Nat) (ha : Val.Wf (.f64 a)) (hb : Val.Wf (.f64 b)) :
    Val.lt (.f64 a) (.f64 b) ∨ fieldValue false (.f64 a) = fieldValue false (.f64 b) ∨ Val.lt (.f64 b) (.f64 a) :=
  float_tri f64 a b ha hb

theorem tri_f32 (a b : Nat) (ha : Val.Wf (.f32 a)) (hb : Val.Wf (.f32 b)) :
    Val.lt (.f32 a) (.f32 b) ∨ fieldValue false (.f32 a) = fieldValue false (.f32 b) ∨ Val.lt (.f32 b) (.f32 a) :=
  float_tri f32 a b ha hb

theorem tri_str (a b : Bytes) :
    Val.lt (.str a) (.str b) ∨ fieldValue false (.str a) = fieldValue false (.str b) ∨ Val.lt (.str b) (.str a) := by
  by_cases h : a = b
  · exact Or.inr (Or.inl (congrArg (fun x => fieldValue false (.str x)) h))
  · exact (lt_total a b h).imp_right Or.inr

theorem tri_time (s n s' n' : Int) :
    Val.lt (.time s n) (.time s' n') ∨ fieldValue false (.time s n) = fieldValue false (.time s' n') ∨ Val.lt (.time s' n') (.time s n) := by
  simp only [Val.lt]
  by_cases h : s = s' ∧ n = n'
  · exact Or.inr (Or.inl (by rw [h.1, h.2]))
  · omega

/-- **null first** (ascending) / last (descending), against every non-null value -/
theorem null_first (v : Val) (hv : Val.Wf v) (hn : v ≠ .null) :
    slt (fieldValue false .null) (fieldValue false v) = true ∧
    slt (fieldValue true v) (fieldValue true .null) = true := by
  have h : Val.lt .null v := by
    cases v
    · exact absurd rfl hn
    all_goals trivial
  exact ⟨asc_mono _ _ trivial hv h, desc_anti _ _ trivial hv h⟩

/-- **prefix-free**: the key of a value is never a prefix of the key of a value it is ordered with -/
theorem prefix_free (a b : Val) (ha : Val.Wf a) (hb : Val.Wf b) (d : Bool) (h : Val.lt a b) :
    isPrefix (fieldValue d a) (fieldValue d b) = false ∧ isPrefix (fieldValue d b) (fieldValue d a) = false := by
  cases d
  · exact slt_not_prefix _ _ (asc_mono a b ha hb h)
  · exact (slt_not_prefix _ _ (desc_anti a b ha hb h)).symm

/-- the order a component with direction flag `d` is meant to impose -/
def compLt (d : Bool) (a b : Val) : Prop := if d then Val.lt b a else Val.lt a b

/-- the `col = 0` / `idx = 0` branches of `EncodeIndexDataStoreKey` are left out -/
theorem indexKey_eq_baseKey (col idx : Nat) (hc : col ≠ 0) (hi : idx ≠ 0) (fs : List (Val × Bool)) :
    indexKey col idx fs = Index.baseKey col idx ++ fs.flatMap (fun (v, d) => 0x2f :: fieldValue d v) := by
  unfold indexKey Index.baseKey; simp [hc, hi]

/-- **composite keys compare component-wise**: keys of one index that agree on the first components and are ordered at
    the next (in its direction) are ordered alike, whatever components and docID follow -/
theorem composite_lex (col idx : Nat) (hc : col ≠ 0) (hi : idx ≠ 0)
    (pre : List (Val × Bool)) (a b : Val) (d : Bool) (ra rb : List (Val × Bool))
    (ha : Val.Wf a) (hb : Val.Wf b) (h : compLt d a b) :
    Bytes.lt (indexKey col idx (pre ++ (a, d) :: ra)) (indexKey col idx (pre ++ (b, d) :: rb)) = true := by
  apply slt_imp_lt
  have hs : slt (fieldValue d a) (fieldValue d b) = true := by
    cases d
    · exact asc_mono a b ha hb h
    · exact desc_anti b a hb ha h
  rw [indexKey_eq_baseKey col idx hc hi, indexKey_eq_baseKey col idx hc hi, slt_prefix]
  simp only [List.flatMap_append, List.flatMap_cons, slt_prefix, List.cons_append, slt_cons_same]
  exact slt_append _ _ _ _ hs

/-- **nothing is lost** for int, string, time, bool, null: decoding returns the written value and the exact remainder
    (floats and JSON: not stated) -/
theorem decode_encode_int (i : Int) (h : Val.Wf (.int i)) (d : Bool) (r : Bytes) :
    decFieldValue d (fieldValue d (.int i) ++ r) = some (.int i, r) := by
  obtain ⟨m, w, x, e, h1, h2⟩ : ∃ m w x, fieldValue d (.int i) = m :: be w x ∧ IntMin ≤ m ∧ m ≤ IntMax := by
    cases d <;> exact varintAsc_form _
  have hdec : (if d then decVarintDesc (fieldValue d (.int i) ++ r) else decVarintAsc (fieldValue d (.int i) ++ r))
      = some (i, r) := by
    cases d
    · exact dec_varintAsc i h.1 h.2 r
    · exact dec_varintDesc i h.1 h.2 r
  rw [e, List.cons_append] at hdec ⊢
  -- the first byte lies in the integers' range
  simp only [IntMin, IntMax] at h1 h2
  have n1 : ¬ (m = encodedNull ∨ m = encodedNullDesc) := by simp only [encodedNull, encodedNullDesc]; omega
  have n2 : ¬ (m = bytesMarker ∨ m = bytesDescMarker) := by simp only [bytesMarker, bytesDescMarker]; omega
  simp only [decFieldValue, n1, n2, h1, h2, if_false, and_self, ge_iff_le, if_true, hdec, Option.map_some]

theorem decode_encode_str (s : Bytes) (h : Val.Wf (.str s)) (d : Bool) (r : Bytes) :
    decFieldValue d (fieldValue d (.str s) ++ r) = some (.str s, r) := by
  cases d
  · have h1 := dec_bytesAsc s r
    simp only [bytesAsc, bytesMarker, List.cons_append, List.append_assoc, List.nil_append] at h1
    simp [fieldValue, bytesAsc, decFieldValue, h1]
  · have h1 := dec_bytesDesc s r h
    simp only [bytesDesc, bytesDescMarker, List.cons_append] at h1
    simp [fieldValue, bytesDesc, decFieldValue, h1]

theorem decode_encode_time (s n : Int) (h : Val.Wf (.time s n)) (d : Bool) (r : Bytes) :
    decFieldValue d (fieldValue d (.time s n) ++ r) = some (.time s n, r) := by
  cases d
  · have h1 := dec_timeAsc s n h.1.1 h.1.2 h.2.1 h.2.2 r
    simp only [timeAsc, timeMarker, List.cons_append, List.append_assoc] at h1
    simp [fieldValue, timeAsc, decFieldValue, h1]
  · have h1 := dec_timeDesc s n h.1.1 h.1.2 h.2.1 h.2.2 r
    simp only [timeDesc, timeMarker, List.cons_append, List.append_assoc] at h1
    simp [fieldValue, timeDesc, decFieldValue, h1]

theorem decode_encode_bool (b : Bool) (d : Bool) (r : Bytes) :
    decFieldValue d (fieldValue d (.bool b) ++ r) = some (.bool b, r) := by
  cases d <;> cases b <;> rfl

theorem decode_encode_null (d : Bool) (r : Bytes) :
    decFieldValue d (fieldValue d .null ++ r) = some (.null, r) := by
  cases d <;> rfl

/-- every key extending `p` sorts below `prefixEnd p` (unless `p` is all `ff`, when Go returns `p`) -/
theorem prefixEnd_upper (p s : Bytes) (r : Bytes) (h : prefixEndRev p.reverse = some r) :
    slt (p ++ s) (prefixEnd p) = true := by
  have he : pe p = some r.reverse := by rw [← prefixEndRev_reverse, h]; rfl
  rw [prefixEnd_eq, he]
  exact pe_upper p s _ he

/-! non-vacuity, at the extremes -/

example : Val.Wf (.int (-(2 ^ 63))) ∧ Val.Wf (.int (2 ^ 63 - 1)) ∧ Val.lt (.int (-(2 ^ 63))) (.int (2 ^ 63 - 1)) := by
  simp [Val.Wf, Val.lt]
example : Val.Wf (.f64 0x8000000000000000) ∧ Val.Wf (.f64 0x7FF0000000000000) ∧
    Val.lt (.f64 0xFFF0000000000000) (.f64 0x8000000000000001) := by
  simp [Val.Wf, Val.lt, f64, FFmt.isNaN, FFmt.mag, FFmt.signBit, FFmt.key, FFmt.isNeg]
example : Val.Wf (.str [0, 255, 0]) ∧ Val.lt (.str []) (.str [0]) ∧ Val.lt (.str [0]) (.str [0, 0]) := by
  refine ⟨?_, by simp [Val.lt], by simp [Val.lt]⟩
  intro x hx; simp at hx; omega
example : Val.Wf (.time (-62135596800) 999999999) := by simp [Val.Wf]
example : fieldValue false (.int (-256)) = [134, 255, 0] ∧ fieldValue true (.int 300) = [134, 254, 211] := by
  constructor <;> decide

end Defra.Props.C17
