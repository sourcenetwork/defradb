import DefraModel.Proofs.RelationInv

/-!
# C09 — relations read the same from both sides

For the relation model (`DefraModel/Relation.lean`) and databases with unique identifiers (every `run o ops` is one:
`(run_sound o ops).idsUnique`): the join driven from the parent side and the join driven from the child side relate
the same pairs. The inverted joins the planner selects when
the other side has an index — children visited in any order with each parent fetched once, or parents visited in any
order — give what the direct evaluation gives, also next to a condition on the child itself or an aggregate over the
related documents; for a condition that nil satisfies, inverting loses answers. Over every history of local writes no
link of a one-to-one collection is held by two live documents at once.
-/
namespace Defra.Relation

theorem child_iff_points_to (db : DB) (r : Rel) (p c : Doc) :
    c ∈ children db r p ↔ c ∈ live db r.child ∧ c.fk = some p.id :=
  mem_children

/-- **Both sides agree.** `c` is listed under `p` by the join driven from the parent side exactly when the join
    driven from the child side gives `p` as the parent of `c`. -/
theorem join_from_parent_iff_from_child (db : DB) (hu : IdsUnique db) (r : Rel) (p c : Doc) :
    (∃ kids, (p, kids) ∈ joinFromParent db r ∧ c ∈ kids) ↔ (c, some p) ∈ joinFromChild db r := by
  unfold joinFromParent joinFromChild
  constructor
  · rintro ⟨kids, hm, hc⟩
    obtain ⟨_, hp, ⟨⟩⟩ := List.mem_map.mp hm
    obtain ⟨hcl, hfk⟩ := mem_children.mp hc
    exact List.mem_map.mpr ⟨c, hcl, by rw [(parentOf_eq_some_iff hu).mpr ⟨hp, hfk⟩]⟩
  · intro hm
    obtain ⟨c', hc', heq⟩ := List.mem_map.mp hm
    obtain ⟨rfl, hpo⟩ := Prod.mk.inj heq
    obtain ⟨hp, hfk⟩ := (parentOf_eq_some_iff hu).mp hpo
    exact ⟨_, List.mem_map.mpr ⟨p, hp, rfl⟩, mem_children.mpr ⟨hc', hfk⟩⟩

/-- **Inverted join.** Visiting any list of children in any order: each parent is yielded at most once, with all
    its children, and the parents yielded are exactly the live parents some visited child points to. -/
theorem inverted_join_parents (db : DB) (hu : IdsUnique db) (r : Rel) (visit : List Doc) :
    ((invertedFromChildren db r visit []).map (fun pk => pk.1.id)).Nodup ∧
    ∀ p kids, (p, kids) ∈ invertedFromChildren db r visit [] ↔
      (p ∈ live db r.parent ∧ kids = children db r p ∧ ∃ c ∈ visit, c.fk = some p.id) := by
  refine ⟨?_, fun p kids => by
    simp only [mem_invertedFromChildren hu, List.not_mem_nil, not_false_eq_true, true_and]⟩
  rw [invertedFromChildren_eq]
  exact (Lookup.lookup_keys_sublist _ _ (fun _ _ => fetchParent_id) _).nodup (IndexMulti.nodup_dedupSeen _ _)

/-- Hence a parent-side request filtered through the relation gives the same parents whether the predicate is evaluated
    per parent over its children, or the matching children are visited in the order `visit` of an index. -/
theorem inverted_filter_eq_direct (db : DB) (hu : IdsUnique db) (r : Rel) (q : Doc → Bool) (visit : List Doc)
    (hv : ∀ c, c ∈ visit ↔ c ∈ (live db r.child).filter q) (p : Doc) :
    (∃ kids, (p, kids) ∈ invertedFromChildren db r visit []) ↔ p ∈ parentsWith db r q := by
  simp only [(inverted_join_parents db hu r visit).2, mem_parentsWith, hv, List.mem_filter]
  constructor
  · rintro ⟨_, hp, -, c, ⟨hc, hq⟩, hfk⟩; exact ⟨hp, c, hc, hfk, hq⟩
  · rintro ⟨hp, c, hc, hfk, hq⟩; exact ⟨_, hp, rfl, c, ⟨hc, hq⟩, hfk⟩

/-- visiting any list of parents, the pairs yielded are exactly those of the specification; a parent without
    children contributes nothing and the walk goes on -/
theorem inverted_from_parents_pairs (db : DB) (r : Rel) (visit : List Doc) (c p : Doc) :
    (c, p) ∈ invertedFromParents db r visit ↔ p ∈ visit ∧ c ∈ children db r p := by
  unfold invertedFromParents
  rw [List.mem_flatMap]
  constructor
  · rintro ⟨p', hp', hm⟩
    obtain ⟨_, hc', ⟨⟩⟩ := List.mem_map.mp hm
    exact ⟨hp', hc'⟩
  · rintro ⟨hp, hc⟩
    exact ⟨p, hp, List.mem_map.mpr ⟨c, hc, rfl⟩⟩

/-- Hence a child-side request filtered through the relation gives the same children whether every child's parent
    is looked up and tested, or the matching parents are visited in the order of an index. -/
theorem inverted_children_eq_direct (db : DB) (hu : IdsUnique db) (r : Rel) (q : Doc → Bool) (visit : List Doc)
    (hv : ∀ p, p ∈ visit ↔ p ∈ (live db r.parent).filter q) (c : Doc) :
    (∃ p, (c, p) ∈ invertedFromParents db r visit) ↔ c ∈ childrenWith db r q := by
  simp only [inverted_from_parents_pairs, mem_childrenWith, parentOf_eq_some_iff hu, hv, List.mem_filter,
    mem_children]
  constructor
  · rintro ⟨p, ⟨hp, hq⟩, hc, hfk⟩; exact ⟨hc, p, ⟨hp, hfk⟩, hq⟩
  · rintro ⟨hc, p, ⟨hp, hfk⟩, hq⟩; exact ⟨p, ⟨hp, hq⟩, hc, hfk⟩

/-- a child-side request with a condition `q` on the parent AND a condition `own` on the child itself: visiting the
    matching parents and keeping, of the children referencing each, those that satisfy `own` gives the children of the
    direct evaluation — the child's own condition has to stay on the scan of the children -/
theorem inverted_children_with_own_condition (db : DB) (hu : IdsUnique db) (r : Rel) (q own : Doc → Bool)
    (visit : List Doc) (hv : ∀ p, p ∈ visit ↔ p ∈ (live db r.parent).filter q) (c : Doc) :
    (∃ p, (c, p) ∈ (invertedFromParents db r visit).filter (fun cp => own cp.1)) ↔
      c ∈ (childrenWith db r q).filter own := by
  simp only [List.mem_filter, ← inverted_children_eq_direct db hu r q visit hv c, exists_and_right]

/-- the direct evaluation of a condition on the single related document when a missing related document reads as nil:
    `qnil` says whether nil satisfies the condition (`_ne v`, `_nin`, `_nlike`, a null operand) -/
def childrenWithNil (db : DB) (r : Rel) (q : Doc → Bool) (qnil : Bool) : List Doc :=
  (live db r.child).filter (fun c => match parentOf db r c with
    | some p => q p
    | none => qnil)

/-- when nil does not satisfy the condition, this is `childrenWith`, and the inverted join is exact -/
theorem childrenWithNil_false (db : DB) (r : Rel) (q : Doc → Bool) :
    childrenWithNil db r q false = childrenWith db r q := rfl

/-- when nil satisfies the condition, a child without a (live) parent belongs to the answer and is never
    reached from the parents, whatever the visiting order: the planner must not invert the join for such a condition -/
theorem inverted_join_misses_children_without_parent (db : DB) (r : Rel) (q : Doc → Bool) (visit : List Doc)
    (c : Doc) (hc : c ∈ live db r.child) (hno : parentOf db r c = none)
    (hsub : ∀ p, p ∈ visit → p ∈ live db r.parent) (hu : IdsUnique db) :
    c ∈ childrenWithNil db r q true ∧ ¬ ∃ p, (c, p) ∈ invertedFromParents db r visit := by
  refine ⟨List.mem_filter.mpr ⟨hc, by simp [hno]⟩, ?_⟩
  rintro ⟨p, h⟩
  obtain ⟨hp, hch⟩ := (inverted_from_parents_pairs db r visit c p).mp h
  rw [(parentOf_eq_some_iff hu).mpr ⟨hsub p hp, (mem_children.mp hch).2⟩] at hno
  cases hno

/-- every parent the inverted join yields comes with as many children as the specification lists (with all of them:
    `inverted_join_parents`), so a count over them next to the relation filter is that of the direct evaluation -/
theorem inverted_join_counts_all_children (db : DB) (hu : IdsUnique db) (r : Rel) (visit : List Doc)
    (p : Doc) (kids : List Doc) (h : (p, kids) ∈ invertedFromChildren db r visit []) :
    kids.length = (children db r p).length := by
  obtain ⟨_, hk, _⟩ := ((inverted_join_parents db hu r visit).2 p kids).mp h
  rw [hk]

/-- **One-to-one.** After every history of local writes no link of a one-to-one collection is held by two live
    documents at once. -/
theorem one_to_one_never_double_linked (o : Nat → Bool) (col : Nat) (hoo : o col = true) (ops : List Op)
    (a b : Doc) (ha : a ∈ live (run o ops) col) (hb : b ∈ live (run o ops) col) (k : Nat)
    (hka : a.fk = some k) (hkb : b.fk = some k) : a = b := by
  have hs := run_sound o ops
  exact hs.idsUnique a (mem_live.mp ha).1 b (mem_live.mp hb).1 (hs.unique hoo a ha b hb k hka hkb)

/-! ### non-vacuity -/

def sampleDB : DB :=
  [ { id := 0, col := 0, name := "ann", x := some 4 }, { id := 1, col := 0, name := "bob", x := some 5 },
    { id := 2, col := 1, x := some 1, fk := some 1 }, { id := 3, col := 1, x := some 3, fk := some 0 },
    { id := 4, col := 1, x := some 4, fk := some 1 }, { id := 5, col := 1, x := some 9 } ]

/-- index order 1,3,4 of the matching children: the parent of the first and third child is yielded once -/
example : (invertedFromChildren sampleDB ⟨0, 1⟩ [sampleDB[2], sampleDB[3], sampleDB[4]] []).map (fun pk => (pk.1.id, pk.2.map (·.id)))
    = [(1, [2, 4]), (0, [3])] := by decide

example : (parentsWith sampleDB ⟨0, 1⟩ (fun c => c.x == some 4)).map (·.id) = [1] ∧
    (childrenWith sampleDB ⟨0, 1⟩ (fun p => p.name == "ann")).map (·.id) = [3] := by decide

/-- the child without a parent (id 5): `name != "ann"` read from the child side keeps it, the walk over the parents
    called otherwise (bob) reaches only bob's children; with a condition on the child's own `x` the walk agrees with
    the direct evaluation -/
example : (childrenWithNil sampleDB ⟨0, 1⟩ (fun p => p.name != "ann") true).map (·.id) = [2, 4, 5] ∧
    (invertedFromParents sampleDB ⟨0, 1⟩ [sampleDB[1]]).map (fun cp => cp.1.id) = [2, 4] ∧
    parentOf sampleDB ⟨0, 1⟩ sampleDB[5] = none ∧
    ((invertedFromParents sampleDB ⟨0, 1⟩ [sampleDB[1]]).filter (fun cp => cp.1.x == some 4)).map (fun cp => cp.1.id) = [4] ∧
    ((childrenWith sampleDB ⟨0, 1⟩ (fun p => p.name == "bob")).filter (fun c => c.x == some 4)).map (·.id) = [4] := by decide

/-- a second holder of a one-to-one link is rejected on create and on relink -/
example : (step (fun c => c == 1) [{ id := 0, col := 0 }, { id := 1, col := 1, fk := some 0 }]
      (.create { id := 2, col := 1, fk := some 0 })).2 = false ∧
    (step (fun c => c == 1) [{ id := 0, col := 0 }, { id := 1, col := 1, fk := some 0 }, { id := 2, col := 1 }]
      (.setFk 2 (some 0))).2 = false := by decide

end Defra.Relation
