/-
C06 — Explicit transactions are isolated: snapshot reads, no lost updates.
Theorems about Kv/Mvcc.lean for arbitrary finite schedules of any number of transactions.  The commit rule (conflict
iff a READ key has a newer committed version) is the storage engine's: harness/txn validates it against the real Badger
store at the KV level and compares the document API with the same model through document footprints.
-/
import DefraModel.Proofs.MvccIso
namespace Defra.Props.C06
open Defra Defra.Mvcc

/-- **snapshot reads**: a read inside a transaction returns its own latest write of the key, else the value
    committed at its start — and that start value is the same after ANY schedule of other activity -/
theorem snapshot_read (db : DB) (t : Txn) (hstart : t.startTs ≤ db.clock) (others : List Act) (k : Key) :
    t.see (runActs db others).1.versions k = t.see db.versions k := by
  unfold Txn.see
  cases lookupW t.writes k with
  | some v => rfl
  | none => exact run_preserves_snapshot others db t.startTs hstart k

/-- **invisible until commit**: a write inside a transaction changes nothing that anyone else can read -/
theorem write_invisible (db : DB) (i : Nat) (k : Key) (v : Val) :
    (step db (.write i k v)).1.versions = db.versions ∧ (step db (.write i k v)).1.clock = db.clock :=
  (step_unchanged_or_commit db _).resolve_right fun ⟨_, _, e, _⟩ => nomatch e

/-- **a discarded transaction leaves no trace** -/
theorem discard_no_trace (db : DB) (i : Nat) :
    (step db (.discard i)).1.versions = db.versions ∧ (step db (.discard i)).1.clock = db.clock :=
  (step_unchanged_or_commit db _).resolve_right fun ⟨_, _, e, _⟩ => nomatch e

/-- **a failed (conflicting) commit leaves no trace either** -/
theorem conflict_no_trace (db : DB) (i : Nat) (h : (step db (.commit i)).2 = .conflict) :
    (step db (.commit i)).1.versions = db.versions ∧ (step db (.commit i)).1.clock = db.clock :=
  (step_unchanged_or_commit db _).resolve_right fun ⟨_, _, _, _, _, hc⟩ => by rw [h] at hc; cases hc

/-- **writes become visible together**: a successful commit installs every write of the transaction at ONE
    new timestamp, so no reader can see some of them without the others -/
theorem commit_installs_all_at_once (db : DB) (i : Nat) (t : Txn) (ht : db.txn? i = some t)
    (hne : t.writes.isEmpty = false)
    (h : (step db (.commit i)).2 = .committed) :
    (step db (.commit i)).1.versions = db.versions ++ t.writes.map (fun w => ⟨w.1, db.clock + 1, w.2⟩) ∧
    (step db (.commit i)).1.clock = db.clock + 1 :=
  (commit_installs db i t ht hne h).2

/-- **no lost update**: once `i`, which writes `k`, has committed, a transaction record `tj` that read `k` from a
    snapshot no later than that commit has a conflict, and keeps it whatever versions are appended (`later`) and
    whatever else it reads (`moreReads`); `conflicting_commit_fails` turns the conflict into the answer of its commit -/
theorem no_lost_update (db : DB) (i : Nat) (ti tj : Txn) (k : Key)
    (hti : db.txn? i = some ti)
    (hwi : ∃ v, (k, v) ∈ ti.writes) (hrj : k ∈ tj.reads) (hsj : tj.startTs ≤ db.clock)
    (hcommit : (step db (.commit i)).2 = .committed) (later : List Version) (moreReads : List Key) :
    hasConflict ((step db (.commit i)).1.versions ++ later) { tj with reads := tj.reads ++ moreReads } = true := by
  obtain ⟨v, hv⟩ := hwi
  have hne : ti.writes.isEmpty = false := List.isEmpty_eq_false_iff_exists_mem.mpr ⟨_, hv⟩
  rw [(commit_installs_all_at_once db i ti hti hne hcommit).1, hasConflict_iff]
  -- the conflicting version is `i`'s write of `k`, installed at `db.clock + 1`
  refine ⟨k, ?_, ⟨k, db.clock + 1, v⟩, ?_, rfl, ?_⟩
  · exact List.mem_append_left _ hrj
  · exact List.mem_append_left _ (List.mem_append_right _ (List.mem_map.mpr ⟨(k, v), hv, rfl⟩))
  · exact Nat.lt_succ_of_le hsj

/-- and a transaction whose read set has a conflict does not commit -/
theorem conflicting_commit_fails (db : DB) (j : Nat) (tj : Txn) (htj : db.txn? j = some tj) (hl : tj.live = true)
    (hw : tj.writes.isEmpty = false)
    (hc : hasConflict db.versions tj = true) : (step db (.commit j)).2 = .conflict := by
  simp [step, htj, hl, hw, hc]

/-- **a committing transaction's reads are current**: when a transaction with writes commits, every key it read
    still has, at any timestamp from its snapshot on, the value it saw — so it could have run at its commit point:
    with `commit_installs_all_at_once`, serializability of the committed read-write transactions in commit order -/
theorem committed_reads_were_current (db : DB) (i : Nat) (t : Txn) (ht : db.txn? i = some t)
    (hne : t.writes.isEmpty = false) (h : (step db (.commit i)).2 = .committed)
    (k : Key) (hk : k ∈ t.reads) (ts : Nat) (hts : t.startTs ≤ ts) :
    readAt db.versions ts k = readAt db.versions t.startTs k :=
  noConflict_read_current db.versions t (commit_installs db i t ht hne h).1 k hk ts hts

/-- a read-only transaction always commits (it has nothing to install): its reads are those of its snapshot
    (`snapshot_read`), which is a state the database really was in -/
theorem read_only_commits (db : DB) (i : Nat) (t : Txn) (ht : db.txn? i = some t) (hl : t.live = true)
    (hw : t.writes.isEmpty = true) : (step db (.commit i)).2 = .committed ∧
    (step db (.commit i)).1.versions = db.versions := by
  simp [step, ht, hl, hw, DB.setTxn]

/-- **only a successful commit changes what is committed**: every other step — begin, read, write, discard, a
    refused or conflicting commit, a read from outside — leaves the committed versions and the clock as they were -/
theorem only_commits_change_the_store (db : DB) (a : Act) (h : (step db a).2 ≠ .committed) :
    (step db a).1.versions = db.versions ∧ (step db a).1.clock = db.clock :=
  (step_unchanged_or_commit db a).resolve_right fun ⟨_, _, _, _, _, hc⟩ => h hc

/-- ... hence a schedule in which no commit succeeds, whatever its transactions do, leaves no trace at all -/
theorem schedules_without_commit_leave_no_trace (acts : List Act) : ∀ (db : DB),
    (∀ o ∈ (runActs db acts).2, o ≠ .committed) →
    (runActs db acts).1.versions = db.versions ∧ (runActs db acts).1.clock = db.clock := by
  induction acts with
  | nil => intro db _; exact ⟨rfl, rfl⟩
  | cons a rest ih =>
    intro db h
    simp only [runActs] at h ⊢
    have h1 : (step db a).2 ≠ .committed := h _ (by simp)
    obtain ⟨hv, hc⟩ := only_commits_change_the_store db a h1
    obtain ⟨hv2, hc2⟩ := ih (step db a).1 (fun o ho => h o (by simp [ho]))
    exact ⟨hv2.trans hv, hc2.trans hc⟩

/-! non-vacuity: two transactions increment the same key from the same snapshot -/
def sched : List Act := [.begin 1, .begin 2, .read 1 7, .read 2 7, .write 1 7 (some 1), .write 2 7 (some 1),
  .commit 1, .outsideRead 7, .commit 2, .outsideRead 7]

example : (runActs {} sched).2 =
    [.none, .none, .val none, .val none, .none, .none, .committed, .val (some 1), .conflict, .val (some 1)] := by
  decide

/-- a transaction that read a key nobody changed commits, and what it read is what the store holds at commit -/
def sched2 : List Act := [.begin 1, .begin 2, .read 1 7, .write 1 8 (some 5), .write 2 9 (some 6), .commit 2, .commit 1,
  .outsideRead 7, .outsideRead 8, .outsideRead 9]
example : (runActs {} sched2).2 =
    [.none, .none, .val none, .none, .none, .committed, .committed, .val none, .val (some 5), .val (some 6)] := by
  decide

/-- a transaction that writes, reads its own write and is discarded; its late commit is refused -/
example : (runActs {} [.begin 1, .write 1 7 (some 1), .read 1 7, .discard 1, .commit 1]).2 = [.none, .none, .val (some 1), .none, .notLive] ∧
    (runActs {} [.begin 1, .write 1 7 (some 1), .read 1 7, .discard 1, .commit 1]).1.versions = [] := by decide

end Defra.Props.C06
