/-
C05 — Mutations are all-or-nothing, also when the storage layer fails mid-way.
Theorems about Kv/TxnM.lean for EVERY program, store and fault oracle (any faults, the commit included).  The code is
tied to the model, on every check, by (1) the obligations of `Oblig/C05.lean` over facts regenerated from /repo:
every mutating API method begins, defers the discard, propagates every error and commits last; update events are
published only from commit-success callbacks; no storage error on the write path is dropped; and (2) exhaustive fault
enumeration on the real code (harness/fault) with byte-comparison of the whole store.
-/
import DefraModel.Proofs.TxnAtomic
namespace Defra.Props.C05
open Defra Defra.Kv

/-- **all or nothing**: every call either reports an error, leaves the committed store exactly as it was and
    publishes nothing, or reports success, commits ALL writes of its body at once and publishes exactly the
    registered events -/
theorem withTxn_atomic {α : Type} (fails : Nat → Bool) (body : Prog α) (store : Store) :
    ((withTxn fails body store).res = .err ∧ (withTxn fails body store).store = store ∧
      (withTxn fails body store).published = []) ∨
    (∃ a t, run fails body { snapshot := store } = (.ok a, t) ∧
      (withTxn fails body store).res = .ok a ∧ (withTxn fails body store).store = t.view ∧
      (withTxn fails body store).published = t.callbacks) := by
  rcases withTxn_cases fails body store with e | ⟨a, t, hr, _, e⟩ <;> rw [e]
  · exact Or.inl ⟨rfl, rfl, rfl⟩
  · exact Or.inr ⟨a, t, hr, rfl, rfl, rfl⟩

/-- **success means the complete effect**: a call that reports success under ANY fault oracle has exactly the
    result, the store and the events of the fault-free run -/
theorem success_is_complete {α : Type} (fails : Nat → Bool) (body : Prog α) (store : Store) (a : α)
    (h : (withTxn fails body store).res = .ok a) :
    (withTxn fails body store).store = (withTxn (fun _ => false) body store).store ∧
    (withTxn fails body store).published = (withTxn (fun _ => false) body store).published ∧
    (withTxn (fun _ => false) body store).res = .ok a := by
  rw [← withTxn_ok h]
  exact ⟨rfl, rfl, h⟩

/-- an update notification is published only if the change was committed -/
theorem event_only_if_committed {α : Type} (fails : Nat → Bool) (body : Prog α) (store : Store)
    (e : Event) (h : e ∈ (withTxn fails body store).published) :
    ∃ a, (withTxn fails body store).res = .ok a := by
  cases hr : (withTxn fails body store).res with
  | err => rw [withTxn_err hr] at h; cases h
  | ok a => exact ⟨a, rfl⟩

/-- ... and if it was committed, every registered notification is published (fault-free run as reference) -/
theorem committed_publishes_all {α : Type} (fails : Nat → Bool) (body : Prog α) (store : Store) (a : α)
    (h : (withTxn fails body store).res = .ok a) :
    (withTxn fails body store).published = (withTxn (fun _ => false) body store).published :=
  (success_is_complete fails body store a h).2.1

/-- a failed call is invisible to every later call: the history behaves as if it had not been issued -/
theorem failed_call_leaves_no_trace {α : Type} (f : Nat → Bool) (p : Prog α) (rest : List ((Nat → Bool) × Prog α))
    (s : Store) (h : (withTxn f p s).res = .err) :
    runCalls ((f, p) :: rest) s = runCalls rest s := by
  simp only [runCalls, withTxn_err h, List.nil_append]

/-- the calls of a history that report success, each with the fault-free oracle -/
def survivors {α : Type} : List ((Nat → Bool) × Prog α) → Store → List ((Nat → Bool) × Prog α)
  | [], _ => []
  | (f, p) :: rest, s =>
    match (withTxn f p s).res with
    | .err => survivors rest s
    | .ok _ => ((fun _ => false), p) :: survivors rest (withTxn f p s).store

/-- **a history under faults is the fault-free history of its successful calls**: for every sequence of API
    calls and every fault oracle per call, the final store and the sequence of published notifications are those of
    running only the calls that reported success, without any fault -/
theorem history_is_its_successes {α : Type} (calls : List ((Nat → Bool) × Prog α)) :
    ∀ s : Store, runCalls calls s = runCalls (survivors calls s) s := by
  induction calls with
  | nil => intro s; rfl
  | cons c rest ih =>
    intro s
    obtain ⟨f, p⟩ := c
    cases hr : (withTxn f p s).res with
    | err => simp only [survivors, runCalls, withTxn_err hr, List.nil_append, ← ih]
    | ok a => simp only [survivors, hr, runCalls, ← withTxn_ok hr, ← ih]

/-- **explicit transactions**: the creator's commit either fails, leaving the committed store as it was and
    publishing nothing, or installs all buffered writes and publishes all registered events at once (the calls made
    inside, `inExplicitTxn`, only run their body on the caller's `Txn`: no store, no `Outcome`) -/
theorem explicit_commit_all_or_nothing (fails : Nat → Bool) (t : Txn) (store : Store) :
    ((commitTxn fails t store).res = .err ∧ (commitTxn fails t store).store = store ∧
      (commitTxn fails t store).published = []) ∨
    ((commitTxn fails t store).res = .ok () ∧ (commitTxn fails t store).store = applyWrites store t.writes ∧
      (commitTxn fails t store).published = t.callbacks) := by
  unfold commitTxn
  cases hf : fails (t.ticks + 1) <;> simp

theorem explicit_discard_no_trace (store : Store) :
    (discardTxn store).store = store ∧ (discardTxn store).published = [] := ⟨rfl, rfl⟩

/-! non-vacuity: a body with two writes and one notification, fault at the second write / at the commit -/
def body2 : Prog Nat := .set [1] [10] (.onSuccess 7 (.set [2] [20] (.pure 5)))
def empty : Store := fun _ => none

example : (withTxn (fun n => n == 2) body2 empty).published = [] ∧
    (withTxn (fun n => n == 2) body2 empty).store [1] = none := by decide
example : (withTxn (fun n => n == 3) body2 empty).published = [] ∧
    (withTxn (fun n => n == 3) body2 empty).store [1] = none := by decide
example : (withTxn (fun _ => false) body2 empty).published = [7] ∧
    (withTxn (fun _ => false) body2 empty).store [1] = some [10] ∧
    (withTxn (fun _ => false) body2 empty).store [2] = some [20] := by decide

/-- a history of three calls whose second fails at its second write: two notifications, two survivors -/
def hist3 : List ((Nat → Bool) × Prog Nat) := [((fun _ => false), body2), ((fun n => n == 2), body2), ((fun _ => false), body2)]
example : (runCalls hist3 empty).2 = [7, 7] ∧ (survivors hist3 empty).length = 2 := by decide

end Defra.Props.C05
