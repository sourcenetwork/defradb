/-
C12 — Commit signatures authenticate content and author; forged commits are not merged.
The signature scheme (ECDSA secp256k1 / Ed25519 in the repository) is a parameter with correctness, idealised
unforgeability and binding; `Sign.toy` shows the laws are satisfiable.  Which blocks carry a signature, what bytes
are signed (everything but the signature link), how the API reports a wrong key / missing signature / invalid
signature, and that the DAG sync entry point rejects a push with any non-verifying attached signature are mirrored
and compared with the real code (both key types, every single-field tampering) by harness/sign.
-/
import DefraModel.Sign
namespace Defra.Props.C12
open Defra Defra.Sign

variable {SK PK S : Type} [DecidableEq PK]

/-- a commit signed by `sk` verifies against `sk`'s public key over its exact content -/
theorem signed_verifies (sc : Scheme SK PK Content S) (sk : SK) (c : Content) :
    verifyWithKey sc ⟨c, some ⟨sc.pk sk, sc.sign sk c⟩⟩ (sc.pk sk) = .ok := by
  simp [verifyWithKey, sc.sound]

/-- ... and fails to verify under any other key -/
theorem wrong_key_fails (sc : Scheme SK PK Content S) (sk : SK) (c : Content) (other : PK)
    (h : other ≠ sc.pk sk) :
    verifyWithKey sc ⟨c, some ⟨sc.pk sk, sc.sign sk c⟩⟩ other = .mismatch := by
  have : sc.pk sk ≠ other := fun e => h e.symm
  simp [verifyWithKey, this]

omit [DecidableEq PK] in
/-- what verifies was made for that content by a holder of the key (unforgeability), and one signature is for one
    content (binding) -/
theorem tampered_does_not_verify (sc : Scheme SK PK Content S) (sk : SK) (c c' : Content) (h : c' ≠ c) :
    sc.verify (sc.pk sk) c' (sc.sign sk c) = false :=
  Bool.eq_false_iff.mpr fun hx =>
    have ⟨sk', hp, hs⟩ := sc.unforgeable _ _ _ hx
    h (sc.binding sk sk' c c' hp hs).symm

/-- after ANY change to the signed content (delta, priority, parents, links, encryption link) the API answers "invalid" -/
theorem tamper_fails (sc : Scheme SK PK Content S) (sk : SK) (c c' : Content) (h : c' ≠ c) :
    verifyWithKey sc ⟨c', some ⟨sc.pk sk, sc.sign sk c⟩⟩ (sc.pk sk) = .invalid := by
  simp [verifyWithKey, tampered_does_not_verify sc sk c c' h]

/-- a commit without a signature reports "missing", never "ok" -/
theorem unsigned_is_not_ok (sc : Scheme SK PK Content S) (c : Content) (key : PK) :
    verifyWithKey sc ⟨c, none⟩ key = .missing := rfl

/-- **a push is accepted only if every attached signature is genuine**: when the DAG sync accepts, every reachable
    block that carries a signature was signed, over exactly its content, by the secret key of the identity it names -/
theorem accepted_means_all_genuine (sc : Scheme SK PK Content S) (reachable : List (Block PK S))
    (h : syncAccepts sc reachable = true) (b : Block PK S) (hb : b ∈ reachable) (sg : SigBlock PK S)
    (hs : b.signature = some sg) : ∃ sk, sg.identity = sc.pk sk ∧ sg.value = sc.sign sk b.content := by
  unfold syncAccepts at h
  have hb' := List.all_eq_true.mp h b hb
  unfold verifyBlock at hb'
  rw [hs] at hb'
  exact sc.unforgeable _ _ _ hb'

/-- **forged commits are not merged**: one reachable block whose attached signature does not verify makes the
    whole push fail (that a failed push raises no merge event is read off `net/server.go`, not proved here) -/
theorem forged_not_merged (sc : Scheme SK PK Content S) (reachable : List (Block PK S))
    (b : Block PK S) (hb : b ∈ reachable) (hbad : verifyBlock sc b = false) :
    syncAccepts sc reachable = false :=
  Bool.eq_false_iff.mpr fun h => Bool.false_ne_true (hbad.symm.trans (List.all_eq_true.mp h b hb))

/-- in particular a tampered signed block anywhere in the pushed DAG -/
theorem tampered_block_rejects_push (sc : Scheme SK PK Content S) (sk : SK) (c c' : Content) (h : c' ≠ c)
    (reachable : List (Block PK S)) (hb : (⟨c', some ⟨sc.pk sk, sc.sign sk c⟩⟩ : Block PK S) ∈ reachable) :
    syncAccepts sc reachable = false :=
  forged_not_merged sc reachable _ hb (tampered_does_not_verify sc sk c c' h)

/-- **"ok" means untouched**: whatever verifies against the signature the author made over `c` IS `c` -/
theorem ok_means_untouched (sc : Scheme SK PK Content S) (sk : SK) (c c' : Content)
    (h : verifyWithKey sc ⟨c', some ⟨sc.pk sk, sc.sign sk c⟩⟩ (sc.pk sk) = .ok) : c' = c := by
  apply Decidable.byContradiction
  intro hne
  rw [tamper_fails sc sk c c' hne] at h
  cases h

/-- **later field blocks are covered by the composite's signature** (`signBlock` signs composites and only the
    first block of a field): identifiers being content hashes (`cid`, injective), every field block that a composite
    verifying under the author's signature links is one the author linked — a replaced field block has another
    identifier, and a composite re-pointed at it does not verify -/
theorem linked_field_blocks_are_the_authors {FD : Type} (cid : FD → Nat) (hinj : ∀ a b, cid a = cid b → a = b)
    (sc : Scheme SK PK Content S) (sk : SK) (authored : List FD) (c c' : Content)
    (hlinks : c.links = authored.map cid)
    (h : verifyWithKey sc ⟨c', some ⟨sc.pk sk, sc.sign sk c⟩⟩ (sc.pk sk) = .ok)
    (fd : FD) (hfd : cid fd ∈ c'.links) : fd ∈ authored := by
  have := ok_means_untouched sc sk c c' h
  subst this
  rw [hlinks] at hfd
  obtain ⟨a, ha, e⟩ := List.mem_map.mp hfd
  rw [← hinj a fd e]; exact ha

/-! non-vacuity with the toy scheme -/
example : verifyWithKey toy ⟨⟨1, 1, [], [2], none⟩, some ⟨7, toy.sign 7 ⟨1, 1, [], [2], none⟩⟩⟩ 7 = .ok := by decide
example : verifyWithKey toy ⟨⟨9, 1, [], [2], none⟩, some ⟨7, toy.sign 7 ⟨1, 1, [], [2], none⟩⟩⟩ 7 = .invalid := by decide
example : syncAccepts toy [⟨⟨1, 1, [], [], none⟩, none⟩, ⟨⟨9, 2, [1], [], none⟩, some ⟨7, toy.sign 7 ⟨8, 2, [1], [], none⟩⟩⟩] = false := by
  decide

end Defra.Props.C12
