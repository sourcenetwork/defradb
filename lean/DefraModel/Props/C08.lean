/-
C08 — Query results follow the documented filter, order, limit and aggregate semantics.
`evalSpec` is the documented semantics (filter, stable sort by the lexicographic extension of the keys, offset/limit
slice, arithmetic over the listed values); `evalPinned` is what the repository does (its `docValueLess` lets the FIRST
key decide, ties included).  The theorems are about the documented semantics, for every document list and query; the
repository's comparator agrees with it for no or one key and differs for two (known finding `multi-key-order`).
Grouping by several fields: the groups partition the documents, and a group key has to be injective.
The no-panic / no-hang clause is exploration (malformed request stream of harness/query), not proof.
-/
import DefraModel.Proofs.QueryOrder
import DefraModel.Proofs.QueryGroup
namespace Defra.Props.C08
open Defra Defra.Query

/-- **filter**: without ordering and limits the result lists exactly the matching documents, in store order -/
theorem filter_exact (f : F) (docs : List Doc) :
    pipeline lessLex { filter := f } docs = docs.filter f.matches := by
  simp [pipeline, limitOffset]

theorem not_complements (f : F) (d : Doc) : (F.not f).matches d = !f.matches d := rfl
theorem and_intersects (a b : F) (d : Doc) : (F.and a b).matches d = (a.matches d && b.matches d) := rfl
theorem or_unites (a b : F) (d : Doc) : (F.or a b).matches d = (a.matches d || b.matches d) := rfl

/-- a filter and its negation partition the collection -/
theorem filter_partition (f : F) (docs : List Doc) (d : Doc) (hd : d ∈ docs) :
    (d ∈ docs.filter f.matches ∧ d ∉ docs.filter (F.not f).matches) ∨
    (d ∉ docs.filter f.matches ∧ d ∈ docs.filter (F.not f).matches) := by
  simp only [List.mem_filter, not_complements]
  cases h : f.matches d <;> simp [hd]

/-- **ordering is a permutation**: sorting neither loses nor duplicates documents -/
theorem order_perm (keys : List OrderKey) (l : List Doc) : (stableSort (lessLex keys) l).Perm l :=
  List.mergeSort_perm l _

/-- **ordering sorts**: no later document is strictly before an earlier one in the lexicographic order of the keys
    (nil least, DESC reversed) -/
theorem order_sorted (keys : List OrderKey) (l : List Doc) :
    (stableSort (lessLex keys) l).Pairwise (fun a b => leLex keys a b = true) :=
  List.pairwise_mergeSort (le := leLex keys) (leLex_trans keys) (leLex_total keys) l

/-- **ordering is stable**: two documents that the keys do not separate keep their relative order -/
theorem order_stable (keys : List OrderKey) (l : List Doc) (a b : Doc)
    (hab : leLex keys a b = true) (h : [a, b].Sublist l) :
    [a, b].Sublist (stableSort (lessLex keys) l) :=
  List.pair_sublist_mergeSort (le := leLex keys) (leLex_trans keys) (leLex_total keys) hab h

/-- the ordering compares by the first key and breaks ties by each following key -/
theorem order_lex (k : OrderKey) (rest : List OrderKey) (a b : Doc) :
    lessLex (k :: rest) a b =
      (if keyCmp k a b = 0 then lessLex rest a b else decide (keyCmp k a b < 0)) :=
  lessLex_cons k rest a b

/-- with a single ordering key the repository's comparator IS the documented one -/
theorem pinned_single_key_ok (k : OrderKey) (a b : Doc) : lessPinned [k] a b = lessLex [k] a b := by
  by_cases h : vCompare (a.get k.field) (b.get k.field) = 0 <;> simp [lessPinned, lessLex, h]

/-- ... and with no key both leave the order alone -/
theorem pinned_no_key_ok (q : Q) (h : q.order = []) (docs : List Doc) : evalPinned q docs = evalSpec q docs := by
  unfold evalPinned evalSpec pipeline
  have : (effective q).order = [] := by unfold effective; cases q.sel <;> simp [h]
  simp [this]

/-- **known finding, proved of the mirror**: with two keys the repository's comparator ignores the second:
    the list `[d1, d2]` is left as it is although the documented order puts `d2` first -/
theorem pinned_order_ignores_second_key :
    let d1 : Doc := ⟨1, [("a", .int 1), ("b", .int 2)]⟩
    let d2 : Doc := ⟨2, [("a", .int 1), ("b", .int 1)]⟩
    let keys : List OrderKey := [⟨"a", false⟩, ⟨"b", false⟩]
    stableSort (lessPinned keys) [d1, d2] = [d1, d2] ∧ lessLex keys d2 d1 = true := by
  intro d1 d2 keys
  refine ⟨?_, by decide⟩
  apply List.mergeSort_of_pairwise
  decide

/-- **limit/offset cut a slice** of the ordered sequence -/
theorem limit_slice (limit offset : Nat) (l : List Doc) :
    limitOffset limit offset l = if limit = 0 then l.drop offset else (l.drop offset).take limit := by
  unfold limitOffset
  by_cases h : limit = 0 <;> simp [h]

theorem limit_is_sublist (limit offset : Nat) (l : List Doc) : (limitOffset limit offset l).Sublist l :=
  limitOffset_sublist limit offset l

/-- **aggregates are the arithmetic over the listed documents** -/
theorem count_is_length (l : List Doc) : aggregate .count l = .int l.length := rfl

theorem sum_is_fold (f : String) (l : List Doc) (hf : isFloatField f = true) :
    aggregate (.sum f) l = .num8 ((l.filterMap (fun d => (d.get f).num8)).foldl (· + ·) 0) := by
  simp [aggregate, hf]

/-- the fold of `aggregate (.max f)`, started at the first listed value `v`: the result is `v` or a later value, and no
    value exceeds it -/
theorem max_is_bound (vs : List Int) : ∀ (v : Int),
    ((vs.foldl (fun a b => if b > a then b else a) v = v ∨ vs.foldl (fun a b => if b > a then b else a) v ∈ vs) ∧
     v ≤ vs.foldl (fun a b => if b > a then b else a) v ∧
     ∀ x ∈ vs, x ≤ vs.foldl (fun a b => if b > a then b else a) v) := by
  induction vs with
  | nil => exact fun v => ⟨.inl rfl, Int.le_refl v, fun _ h => (List.not_mem_nil h).elim⟩
  | cons y ys ih =>
    intro v
    simp only [List.foldl_cons]
    have hm : v ≤ (if y > v then y else v) ∧ y ≤ (if y > v then y else v) ∧
        ((if y > v then y else v) = v ∨ (if y > v then y else v) = y) := by split <;> omega
    generalize (if y > v then y else v) = m at hm ⊢
    obtain ⟨h1, h2, h3⟩ := ih m
    refine ⟨?_, Int.le_trans hm.1 h2, fun x hx => ?_⟩
    · rcases h1 with h | h
      · rw [h]; exact hm.2.2.imp_right fun (e : m = y) => e ▸ List.mem_cons_self
      · exact .inr (List.mem_cons_of_mem _ h)
    · rcases List.mem_cons.mp hx with rfl | hx
      · exact Int.le_trans hm.2.1 h2
      · exact h3 x hx

/-- `_avg` averages the non-nil values of the documents it lists (its list is cut after nil values are dropped) -/
theorem avg_over_non_nil (q : Q) (f : String) (h : q.sel = .avg f) (docs : List Doc) :
    ∀ d ∈ pipeline lessLex (effective q) docs, d.get f ≠ .null := by
  intro d hd hnull
  have hm := (mem_pipeline hd).2
  simp [effective, h, F.matches, hnull, vEq] at hm

/-! ### grouping by several fields (`Query/Group.lean`, compared with the implementation by `qg` lines) -/

/-- **the groups partition the documents**: the groups are the distinct value tuples, each once; the size of a group is
    the number of documents with that tuple, and the sizes add up to the number of documents -/
theorem groups_partition_the_documents (fs : List String) (docs : List Doc) :
    ((groupCounts fs docs).map (·.1)).Nodup ∧
    total (groupCounts fs docs) = docs.length ∧
    (∀ u, groupSize (groupCounts fs docs) u = (docs.filter (fun d => tupleOf fs d = u)).length) ∧
    (∀ k, k ∈ (groupCounts fs docs).map (·.1) ↔ ∃ d ∈ docs, tupleOf fs d = k) := by
  obtain ⟨h1, h2, h3, h4⟩ := foldl_bump_spec fs docs [] List.nodup_nil
  exact ⟨h1, h2.trans (Nat.zero_add _), fun u => (h3 u).trans (Nat.zero_add _),
    fun k => (h4 k).trans (or_iff_right List.not_mem_nil)⟩

/-- the implementation finds a document's group through a key computed from its values: with an injective key the
    groups are those of the specification -/
theorem grouping_through_an_injective_key {κ : Type} [DecidableEq κ] (key : List V → κ)
    (hinj : ∀ a b, key a = key b → a = b) (fs : List String) (docs : List Doc) :
    groupCountsK key fs docs = groupCounts fs docs := by
  simp only [groupCountsK, groupCounts, bumpK_eq_bump key hinj]

/-- the group key of `arbitrary_join.go`: per field its index, `_`, the value as text, `_`; a string in quotation marks
    (`quote`, the code's `%#v`) or bare (`%v`), and bare the key is not injective. Numbers and booleans are stand-in
    symbols, not used below. -/
def plainKey (quote : Bool) (t : List V) : List Nat :=
  (t.zipIdx 1).flatMap (fun p =>
    let v := match p.1 with
      | .str s => if quote then [34] ++ s ++ [34] else s
      | .null => [60, 110, 105, 108, 62]
      | .int i => [1000 + i.toNat]
      | .flt n => [2000 + n.toNat]
      | .bool b => [if b then 3001 else 3000]
    [48 + p.2, 95] ++ v ++ [95])

theorem plain_key_merges_two_groups :
    let t1 : List V := [.str [120, 95, 50, 95, 121], .str [122]]     -- ("x_2_y", "z")
    let t2 : List V := [.str [120], .str [121, 95, 50, 95, 122]]     -- ("x", "y_2_z")
    t1 ≠ t2 ∧ plainKey false t1 = plainKey false t2 ∧ plainKey true t1 ≠ plainKey true t2 ∧
    (groupCountsK (plainKey false) ["a", "b"] [⟨1, [("a", t1[0]!), ("b", t1[1]!)]⟩, ⟨2, [("a", t2[0]!), ("b", t2[1]!)]⟩]).length = 1 ∧
    (groupCounts ["a", "b"] [⟨1, [("a", t1[0]!), ("b", t1[1]!)]⟩, ⟨2, [("a", t2[0]!), ("b", t2[1]!)]⟩]).length = 2 := by
  decide

/-! non-vacuity -/
example : (evalSpec { filter := .gt "age" (.int 1), limit := 2, offset := 1, sel := .docs }
    [⟨1, [("age", .int 5)]⟩, ⟨2, [("age", .null)]⟩, ⟨3, [("age", .int 7)]⟩, ⟨4, [("age", .int 2)]⟩]) = .docs [3, 4] := by
  decide
example : leLex [⟨"a", false⟩, ⟨"b", true⟩] ⟨1, [("a", .int 1), ("b", .null)]⟩ ⟨2, [("a", .int 1), ("b", .null)]⟩ = true ∧
    lessLex [⟨"a", false⟩, ⟨"b", true⟩] ⟨3, [("a", .int 1), ("b", .int 4)]⟩ ⟨1, [("a", .int 1), ("b", .null)]⟩ = true := by
  decide

end Defra.Props.C08
