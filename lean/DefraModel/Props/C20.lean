/-
C20 — Update notifications are complete, ordered and only for committed changes.
Two models: the transaction monad of C05 (publication = commit-success callbacks) and the event bus
(DefraModel/Events.lean, mirror of event/channel_bus.go).
-/
import DefraModel.Proofs.TxnAtomic
import DefraModel.Proofs.Events
namespace Defra.Props.C20
open Defra Defra.Kv
open Defra.Events (Bus Cmd Name SubscribedTo matching fifo pubs Unsubscribed)

/-- the body of one document write (`collection.save` / `applyDelete`): store the commit's block, register
    ONE update notification for it, then whatever else the write does -/
def writeDoc (cid : Nat) (blockKey : Key) (blockBytes : Val) (rest : Prog Unit) : Prog Unit :=
  .set blockKey blockBytes (.onSuccess cid rest)

/-- a request that writes several documents in one transaction -/
def writeDocs : List (Nat × Key × Val) → Prog Unit
  | [] => .pure ()
  | (cid, k, v) :: more => writeDoc cid k v (writeDocs more)

theorem run_writeDocs_ok (docs : List (Nat × Key × Val)) (t : Txn) :
    run (fun _ => false) (writeDocs docs) t =
      (.ok (), { t with writes := t.writes ++ docs.map (fun d => (d.2.1, some d.2.2)),
                        callbacks := t.callbacks ++ docs.map (·.1),
                        ticks := t.ticks + docs.length }) := by
  induction docs generalizing t with
  | nil => simp [writeDocs, run]
  | cons d more ih =>
    obtain ⟨cid, k, v⟩ := d
    simp only [writeDocs, writeDoc, run, Bool.false_eq_true, if_false, ih]
    simp only [List.map_cons, List.length_cons, List.append_assoc, List.cons_append, List.nil_append,
      Prod.mk.injEq, true_and]
    congr 1
    omega

/-- **exactly one notification per new document-level commit, in request order, or none at all**:
    a multi-document request publishes, under ANY storage faults, either nothing (and stores nothing) or
    exactly the commits it wrote, each once, in the order it wrote them -/
theorem one_event_per_commit (fails : Nat → Bool) (docs : List (Nat × Key × Val)) (store : Store) :
    ((withTxn fails (writeDocs docs) store).published = [] ∧ (withTxn fails (writeDocs docs) store).store = store) ∨
    ((withTxn fails (writeDocs docs) store).published = docs.map (·.1)) := by
  cases hr : (withTxn fails (writeDocs docs) store).res with
  | err => rw [withTxn_err hr]; exact Or.inl ⟨rfl, rfl⟩
  | ok a => rw [withTxn_ok hr, withTxn, run_writeDocs_ok]; exact Or.inr (List.nil_append _)

/-- the announced block is in the store by the time the notification exists -/
theorem announced_block_is_stored (fails : Nat → Bool) (cid : Nat) (k : Key) (v : Val) (store : Store)
    (h : cid ∈ (withTxn fails (writeDocs [(cid, k, v)]) store).published) :
    (withTxn fails (writeDocs [(cid, k, v)]) store).store k = some v := by
  cases hr : (withTxn fails (writeDocs [(cid, k, v)]) store).res with
  | err => rw [withTxn_err hr] at h; cases h
  | ok a => rw [withTxn_ok hr, withTxn, run_writeDocs_ok]; simp [Txn.view, applyWrites]

/-- failed or rolled-back calls contribute no notification to a history -/
theorem rolled_back_publishes_nothing {α : Type} (f : Nat → Bool) (p : Prog α) (s : Store)
    (h : (withTxn f p s).res = .err) : (withTxn f p s).published = [] := by
  rw [withTxn_err h]

/-- **every subscriber sees the publications in publication order**, whatever other subscribers do -/
theorem fifo_per_subscriber (cmds : List Cmd) (b : Bus) (id : Nat) (names : List Name)
    (hsub : SubscribedTo b id names) (hkeep : ∀ c ∈ cmds, c.keeps id = true) :
    (Events.run b cmds).received id = b.received id ++ matching names cmds :=
  (fifo cmds b id names hsub hkeep).1

/-- two subscribers of the same event names that are both subscribed over a stretch of commands receive the
    same sequence over that stretch -/
theorem subscribers_agree (cmds : List Cmd) (b : Bus) (i j : Nat) (names : List Name)
    (hi : SubscribedTo b i names) (hj : SubscribedTo b j names)
    (ki : ∀ c ∈ cmds, c.keeps i = true) (kj : ∀ c ∈ cmds, c.keeps j = true) :
    ((Events.run b cmds).received i).drop (b.received i).length =
    ((Events.run b cmds).received j).drop (b.received j).length := by
  rw [(fifo cmds b i names hi ki).1, (fifo cmds b j names hj kj).1]
  simp

/-- one document write on a branchable collection (`collection.save`, branch `if c.def.Version.IsBranchable`): the
    document-level block, its notification, then the collection-level block that links to it and ITS notification -/
structure BWrite where
  cid : Nat
  key : Key
  bytes : Val
  colCid : Nat
  colKey : Key
  colBytes : Val

def writeDocsB : List BWrite → Prog Unit
  | [] => .pure ()
  | w :: more => .set w.key w.bytes (.onSuccess w.cid (.set w.colKey w.colBytes (.onSuccess w.colCid (writeDocsB more))))

theorem writeDocsB_eq (ws : List BWrite) :
    writeDocsB ws = writeDocs (ws.flatMap fun w => [(w.cid, w.key, w.bytes), (w.colCid, w.colKey, w.colBytes)]) := by
  induction ws with
  | nil => rfl
  | cons w more ih =>
    simp only [writeDocsB, List.flatMap_cons, List.cons_append, List.nil_append, writeDocs, writeDoc, ih]

/-- **branchable collections: exactly two notifications per written document — the document-level commit
    and then the collection-level commit — in write order, or none at all**, under ANY storage faults -/
theorem two_events_per_branchable_write (fails : Nat → Bool) (ws : List BWrite) (store : Store) :
    ((withTxn fails (writeDocsB ws) store).published = [] ∧ (withTxn fails (writeDocsB ws) store).store = store) ∨
    ((withTxn fails (writeDocsB ws) store).published = ws.flatMap (fun w => [w.cid, w.colCid])) := by
  have h := one_event_per_commit fails
    (ws.flatMap fun w => [(w.cid, w.key, w.bytes), (w.colCid, w.colKey, w.colBytes)]) store
  rw [← writeDocsB_eq, List.map_flatMap] at h
  exact h

/-- **no duplicates, nothing invented, nothing out of order — over any history**: whatever the subscriber and the
    others do and whenever the bus is closed, what it received is an in-order sub-sequence of the publications queued -/
theorem received_is_a_subsequence_of_published (cmds : List Cmd) (b : Bus) (id : Nat) :
    ∃ l, (Events.run b cmds).received id = b.received id ++ l ∧ l.Sublist (pubs cmds) :=
  Events.received_sublist cmds b id

/-- a subscriber that is not subscribed receives nothing, whatever is published -/
theorem nothing_without_a_subscription (cmds : List Cmd) (b : Bus) (id : Nat)
    (h : Unsubscribed b id) (hk : ∀ c ∈ cmds, c.notSubscribe id = true) :
    (Events.run b cmds).received id = b.received id :=
  Events.unsubscribed_receives_nothing cmds b id h hk

/-- a closed bus delivers nothing -/
theorem nothing_after_close (cmds : List Cmd) (b : Bus) (h : b.closed = true) : Events.run b cmds = b :=
  Events.run_closed cmds b h

/-- **the lifetime of a subscription**: subscribe, any stretch of commands of the others, unsubscribe, then anything
    but a new subscription of the same id: the subscriber has received EXACTLY the matching publications of the
    stretch, in order — none from before or after, none in between lost -/
theorem subscription_lifetime (b : Bus) (id : Nat) (names : List Name) (mid post : List Cmd)
    (hopen : b.closed = false)
    (hmid : ∀ c ∈ mid, c.keeps id = true) (hpost : ∀ c ∈ post, c.notSubscribe id = true) :
    (Events.run b (Cmd.subscribe id names :: mid ++ [Cmd.unsubscribe id] ++ post)).received id =
      b.received id ++ matching names mid := by
  obtain ⟨hr, hsub⟩ := fifo mid _ id names (Events.subscribe_subscribes b id names hopen) hmid
  have hun := Events.unsubscribe_unsubscribes (Events.run (Events.step b (.subscribe id names)) mid) id hsub.1
  simp only [List.cons_append, Events.run_cons, Events.run_append, Events.run_nil]
  rw [Events.unsubscribed_receives_nothing post _ id hun hpost,  -- `post`: nothing without a subscription
    Events.step_received,                                        -- the unsubscribe step delivers nothing
    hr,                                                          -- `mid`: exactly the matching publications (`fifo`)
    Events.step_received]                                        -- the subscribe step delivers nothing
  simp [pubs]

/-- **a GraphQL subscription yields exactly one result per matching committed change**: the subscription
    handler (`internal/db/subscriptions.go: handleSubscription`) evaluates its request once per update event it
    receives and yields a result iff the announced document passes the filter; over a stretch in which it is
    subscribed its results are therefore exactly the filter-passing publications, one each, in order -/
theorem subscription_results (pass : Name × Nat → Bool) (cmds : List Cmd) (b : Bus) (id : Nat) (names : List Name)
    (hsub : SubscribedTo b id names) (hkeep : ∀ c ∈ cmds, c.keeps id = true) :
    ((Events.run b cmds).received id).filter pass =
      (b.received id).filter pass ++ (matching names cmds).filter pass := by
  rw [(fifo cmds b id names hsub hkeep).1, List.filter_append]

/-! non-vacuity -/
example : (withTxn (fun _ => false) (writeDocs [(1, [1], [10]), (2, [2], [20])]) (fun _ => none)).published = [1, 2] := by
  decide
example : (withTxn (fun n => n == 2) (writeDocs [(1, [1], [10]), (2, [2], [20])]) (fun _ => none)).published = [] := by
  decide
example : ((Events.run {} [.subscribe 1 ["update"], .subscribe 2 ["*"], .publish "update" 7, .unsubscribe 2,
    .publish "update" 8, .publish "merge" 9]).received 1) = [("update", 7), ("update", 8)] := by decide

example : (withTxn (fun _ => false) (writeDocsB [⟨1, [1], [10], 2, [2], [20]⟩, ⟨3, [3], [30], 4, [4], [40]⟩]) (fun _ => none)).published
    = [1, 2, 3, 4] := by decide
example : (withTxn (fun n => n == 4) (writeDocsB [⟨1, [1], [10], 2, [2], [20]⟩, ⟨3, [3], [30], 4, [4], [40]⟩]) (fun _ => none)).published
    = [] := by decide
/-- a subscriber that comes, goes and comes back: the publication in between is not delivered -/
example : ((Events.run {} [.subscribe 1 ["update"], .publish "update" 7, .unsubscribe 1, .publish "update" 8,
    .subscribe 1 ["update"], .publish "update" 9, .close, .publish "update" 10]).received 1) = [("update", 7), ("update", 9)] := by decide

end Defra.Props.C20
