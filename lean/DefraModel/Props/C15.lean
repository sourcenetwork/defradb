import DefraModel.Proofs.Repl

/-!
# C15 — replication eventually delivers every commit, across outages

For the replication model (`Repl.lean`) and every history of writes on A, outages of B and retry rounds: whatever B
lacks is marked as owed under a retry record, and a retry round while B is reachable delivers it all, so B catches up
without operator action; B never holds more than A wrote nor less than before; an "active" status means nothing is owed.
-/
namespace Defra.Repl

theorem run_inv (evs : List Ev) : Inv (run evs) :=
  List.foldlRecOn evs step ⟨rfl, rfl, fun _ h => absurd rfl h, fun h => absurd rfl h⟩ fun s h ev _ => step_inv s ev h

/-- a retry round while B is reachable delivers everything and clears the bookkeeping -/
theorem retry_delivers (s : St) (h : Inv s) (hup : s.bUp = true) :
    Synced (step s .retry) ∧ (step s .retry).owed = [] ∧ ((step s .retry).record = true → False) := by
  have ⟨hr, hnr, howed, _⟩ := h
  simp only [step, hr, hnr, hup, Bool.true_and, Bool.not_false, Bool.and_true, if_true]
  split
  · refine ⟨fun e => ?_, rfl, nofun⟩
    simp only [ver_foldl_push]
    split
    · rfl
    · next heo => exact Decidable.byContradiction fun hne => heo (howed e hne)
  · next hrc =>
    have hrc : s.record = false := by simpa using hrc
    exact ⟨(h.synced hrc).2, (h.synced hrc).1, by simp [hrc]⟩

/-- **Eventual delivery.** After any history of writes, outages and retry rounds: B comes (or is) up, the retry
    loop runs one round — B holds exactly what A holds. -/
theorem eventually_delivered (evs : List Ev) : Synced (run (evs ++ [.up, .retry])) := by
  have h1 : run (evs ++ [.up, .retry]) = step (step (run evs) .up) .retry := List.foldl_append
  rw [h1]
  exact (retry_delivers _ (step_inv (run evs) .up (run_inv evs)) rfl).1

/-- when nothing is recorded for retry, nothing is missing -/
theorem no_record_means_synced (evs : List Ev) (h : (run evs).record = false) : Synced (run evs) :=
  ((run_inv evs).synced h).2

/-- **nothing invented**: after any history the target holds, of every document, at most what the source wrote -/
theorem target_never_ahead (evs : List Ev) (d : Nat) : ver (run evs).b d ≤ ver (run evs).a d :=
  (run_inv2 evs).1 d

/-- **nothing taken back**: what the target holds of a document never shrinks, whatever happens next -/
theorem target_never_regresses (evs more : List Ev) (d : Nat) :
    ver (run evs).b d ≤ ver (run (evs ++ more)).b d := by
  have hrun : run (evs ++ more) = more.foldl step (run evs) := List.foldl_append
  rw [hrun]
  exact foldl_step_mono more (run evs) (run_inv2 evs) d

/-- **the status tells the truth**: the replicator is reported inactive exactly while a retry record exists — so an
    active replicator owes nothing (`no_record_means_synced`) -/
theorem active_means_synced (evs : List Ev) (h : (run evs).active = true) : Synced (run evs) :=
  no_record_means_synced evs (by simpa [h] using (run_inv2 evs).2)

/-! ### non-vacuity -/

/-- two consecutive outages, each followed by a successful retry round -/
example :
    let s := run [.write 1, .down, .write 1, .write 2, .up, .retry, .down, .write 2, .write 3, .up, .retry]
    (s.owed, s.record, s.active, ver s.b 1, ver s.b 2, ver s.b 3) = ([], false, true, 2, 2, 1) := by decide

/-- a retry round while B is still down changes nothing -/
example : (run [.write 1, .down, .write 1, .retry]).owed = [1] ∧ (run [.write 1, .down, .write 1, .retry]).record = true := by
  decide

end Defra.Repl
