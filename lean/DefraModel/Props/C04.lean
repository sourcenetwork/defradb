/-
C04 — The commit graph is a well-formed, content-addressed Merkle DAG.
Content addressing, closure under links and the height rule are observed on the implementation by the
harness on every block it reads (`[dag-content-address]`, `[dag-missing-block]`, `[dag-height]`) and the
`AddDelta` rule (parents = current heads, height = greatest head height + 1) is re-checked by `drv crdt`
for every locally written block. Proved of the model: the head sets are exactly the merged commits without a merged
child (one step, every causal history, every history of `mergeDoc` deliveries); head keys closed with the separator
are listed exactly; the height rule holds after every history of the head store.
-/
import DefraModel.Proofs.CrdtHeads
import DefraModel.Proofs.CrdtConverge
import DefraModel.Proofs.CrdtWfCheck
import DefraModel.Proofs.CrdtHeight
import DefraModel.Proofs.ListLemmas
namespace Defra.Props.C04
open Defra Defra.Crdt

/-- `updateHeads`, for every head list and block: the new block becomes a head and exactly the heads it
    names as parent (or link) stop being heads -/
theorem update_heads_exact (heads : List Nat) (b : Block) (hn : heads.Nodup)
    (hself : b.id ∉ b.parents ++ b.links) (x : Nat) :
    x ∈ updateHeads (fun _ => true) heads b ↔ (x = b.id ∨ (x ∈ heads ∧ x ∉ b.parents ++ b.links)) :=
  updateHeads_mem heads b hn x

theorem update_heads_no_duplicates (heads : List Nat) (b : Block) (hn : heads.Nodup)
    (hself : b.id ∉ b.parents ++ b.links) : (updateHeads (fun _ => true) heads b).Nodup :=
  updateHeads_nodup heads b hn

/-- **invariant step**: heads that are exactly the merged commits no merged commit names as parent stay so after
    merging one more commit whose parents are merged -/
theorem heads_are_childless_merged_step (par : Nat → Nat → Prop) (S : Nat → Prop) (heads : List Nat) (b : Block)
    (hn : heads.Nodup)
    (hpar : ∀ y x, par y x ↔ ∃ blk, blk = y ∧ (if y = b.id then x ∈ b.parents else par y x))
    (hclosed : ∀ y x, S y → par y x → S x)
    (hnew : ¬ S b.id)
    (hself : b.id ∉ b.parents ++ b.links)
    (hlinks : ∀ l ∈ b.links, l ∉ heads)
    (hinv : HeadsAreMaximal par S heads) :
    HeadsAreMaximal par (fun x => S x ∨ x = b.id) (updateHeads (fun _ => true) heads b) :=
  heads_maximal_step par S heads b hn (fun x => by rw [hpar]; simp) hclosed hnew
    (fun h => hself (List.mem_append_left _ h)) hlinks hinv

theorem heads_are_childless_merged_init (par : Nat → Nat → Prop) :
    HeadsAreMaximal par (fun _ => False) [] := by
  intro x; simp

/-- **At all times.** For every history in which each commit arrives after its parents (the height-ordered walk
    delivers them so), with distinct identifiers and links naming blocks of other DAGs: the reported heads are exactly
    the merged commits no merged commit names as parent, without duplicates. -/
theorem heads_are_exactly_the_childless_merged_commits (bs : List Block) (hc : Causal bs) (x : Nat) :
    (foldHeads bs).Nodup ∧ (x ∈ foldHeads bs ↔ (x ∈ bs.map (·.id) ∧ ∀ b ∈ bs, x ∉ b.parents)) :=
  ⟨(foldHeads_exact bs hc).1, (foldHeads_exact bs hc).2 x⟩

/-- **The same for `mergeDoc`, every kind of head set, every history of deliveries** (any stored commits, any order,
    any number of times, from the empty replica): a block is reported as latest exactly when it is merged (a head or an
    ancestor of a head of its kind) and no merged block of that kind names it as parent. For every store passing
    `wfCheck3` (evaluated by `drv crdt` on the stores of the run). -/
theorem latest_are_the_childless_merged_after_every_history (cx : Ctx) (hwf : wfCheck3 cx.blocks = true)
    (hknown : ∀ l, (cx.blocks.get? l).isSome = true → cx.known l = true) (d : String) (cs : List Block)
    (h : ∀ c ∈ cs, cx.blocks.get? c.id = some c ∧ c.kind = .comp) (k : Kind) (x : Nat) :
    x ∈ headsOf ((cs.foldl (mergeDoc cx) {}).doc d) k ↔
      (Reach cx.blocks (headsOf ((cs.foldl (mergeDoc cx) {}).doc d) k) x ∧
        ∀ y yb, Reach cx.blocks (headsOf ((cs.foldl (mergeDoc cx) {}).doc d) k) y → cx.blocks.get? y = some yb →
          x ∉ yb.parents) :=
  heads_exact cx.blocks _
    (deliveries_inv cx (wfCheck3_sound cx.blocks hwf) hknown d (HeadsChildless cx.blocks)
      (headsChildless_applied cx.blocks) cs {} h (docInv_empty cx.blocks) (headsChildless_empty cx.blocks)).2 k x

/-! ### the head set of a field is stored under the key `<namespace>/<cid>` and read back by key prefix -/

/-- **listing by the namespace closed with the separator is exact** (`47` is `/`; segments contain none). A fact about
    the shape of the keys: the prefix scan of `heads.List` has no mirror in the model. Defect ffad14f listed by the bare
    namespace: -/
theorem head_listing_is_exact : ∀ (a b c : List Nat), 47 ∉ a → 47 ∉ b →
    ((a ++ [47]) <+: (b ++ [47] ++ c) ↔ a = b) :=
  fun a b c ha hb => ListLemmas.prefix_sep_iff 47 a b c ha hb

/-- ... which also lists the heads of every field whose identifier merely starts with it: fields `2` and `20` (`[50]`,
    `[50, 48]` in ASCII; `[99]` stands for the rest of the key) -/
theorem bare_prefix_lists_other_fields : ([50] : List Nat) <+: ([50, 48] ++ [47] ++ [99]) ∧ ([50] : List Nat) ≠ [50, 48] := by
  decide

/-- a fork and its merge: 1, then 2 and 3 on 1, then 4 on both -/
def diamond : List Block :=
  [⟨1, .comp, "d", 1, [], [], .comp false⟩, ⟨2, .comp, "d", 2, [1], [], .comp false⟩,
   ⟨3, .comp, "d", 2, [1], [], .comp false⟩, ⟨4, .comp, "d", 3, [2, 3], [], .comp false⟩]

example : foldHeads (diamond.take 3) = [2, 3] ∧ foldHeads diamond = [4] := by decide

/-! ### the height rule (`Crdt/Height.lean`, mirror of `AddDelta` + `heads.List` + the height recorded per head) -/

/-- **a commit's height is one more than the greatest height among its parents, after every history** of local writes
    and merges of commits that obey the rule, from the empty store, provided an identifier names one height (`H`,
    content addressing). The local writes are the point: `AddDelta` looks only at the heights recorded in the head
    store, which are the parents' true heights at every step (`RecordedHeightsTrue`; observed on the real head store
    as `[head-height]`) -/
theorem height_rule_after_every_history (H : Nat → Nat) (ops : List Height.Op)
    (hremote : ∀ c, Height.Op.remote c ∈ ops → Height.Good H c)
    (hH : ∀ c ∈ (Height.run {} ops).commits, H c.id = c.height) :
    ∀ c ∈ (Height.run {} ops).commits, c.height = Height.maxOf (c.parents.map H) + 1 :=
  Height.run_obeys_rule H ops {} (fun h hh => by cases hh) (fun c hc => by cases hc) hremote hH

/-- the heights recorded in the head store are the heights of the commits, in every reachable state -/
theorem recorded_heights_are_true (ops : List Height.Op) :
    ∀ h ∈ (Height.run {} ops).heads, ∃ c ∈ (Height.run {} ops).commits, c.id = h.1 ∧ c.height = h.2 :=
  Height.run_recordedHeightsTrue ops {} (fun h hh => by cases hh)

/-- under the rule the height strictly increases along every parent link, so the commit graph has no cycle -/
theorem parents_are_strictly_lower (H : Nat → Nat) (c : Height.Commit) (h : Height.Good H c) :
    ∀ p ∈ c.parents, H p < c.height := by
  intro p hp
  unfold Height.Good at h
  have := Height.maxOf_ge (c.parents.map H) (H p) (List.mem_map.mpr ⟨p, hp, rfl⟩)
  omega

/-- two local writes, a concurrent remote commit on top of the first, then a local write merging both branches:
    heights 1, 2, 2, 3 -/
example : ((Height.run {} [.local 1, .local 2, .remote ⟨3, 2, [1]⟩, .local 4]).commits.map (fun c => (c.id, c.height, c.parents)))
    = [(1, 1, []), (2, 2, [1]), (3, 2, [1]), (4, 3, [2, 3])] := by decide

/-! non-vacuity: a fork `1 <- {2, 3}` then the merge commit `4` -/
example : updateHeads (fun _ => true) [2, 3] ⟨4, .comp, "d", 3, [2, 3], [9], .comp false⟩ = [4] := by decide
example : updateHeads (fun _ => true) [2] ⟨3, .comp, "d", 2, [1], [8], .comp false⟩ = [2, 3] := by decide

end Defra.Props.C04
