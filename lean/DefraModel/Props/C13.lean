/-
C13 — Document, schema and collection identifiers are pure functions of content.
`docBytes` mirrors `Document.Bytes()` (canonical CBOR of the non-nil field map) byte for byte (compared on every
generated document); a document identifier is `uuid5 (sha256 (docBytes ++ schemaRoot))`, hashes being opaque
functions here.  Proved: the bytes — hence the identifier — do not depend on the order of the fields nor on
whether a nil field is present or omitted.  Independence from the construction route (JSON / map / GraphQL), from the
node and from the run, and the schema/collection identifiers under SDL permutation, partition into several
AddSchema calls and repetition (Go map iteration order) are evaluated on the implementation by harness/ident.
-/
import DefraModel.Proofs.IdentCbor
import DefraModel.Proofs.SchemaSets
namespace Defra.Props.C13
open Defra Defra.Ident

/-- the identifier as a function of the canonical bytes and the schema root (`hash` stands for sha256 + uuid5) -/
def docID {ι : Type} (hash : Bytes → ι) (root : Bytes) (fields : List (Bytes × FV)) : ι :=
  hash (docBytes fields ++ root)

/-- **field order does not matter** -/
theorem docID_field_order {ι : Type} (hash : Bytes → ι) (root : Bytes) (f₁ f₂ : List (Bytes × FV))
    (p : f₁.Perm f₂) (hk : (f₁.map (·.1)).Nodup) : docID hash root f₁ = docID hash root f₂ := by
  unfold docID; rw [docBytes_perm f₁ f₂ p hk]

/-- **null versus omitted does not matter** -/
theorem docID_nil_omitted {ι : Type} (hash : Bytes → ι) (root : Bytes) (k : Bytes) (fs : List (Bytes × FV)) :
    docID hash root ((k, .null) :: fs) = docID hash root fs := by
  unfold docID; rw [docBytes_nil_omitted]

theorem docBytes_canonical (f₁ f₂ : List (Bytes × FV)) (p : f₁.Perm f₂) (hk : (f₁.map (·.1)).Nodup) :
    docBytes f₁ = docBytes f₂ := docBytes_perm f₁ f₂ p hk

/-- the canonical key order is total (unique sorted form: `Ident.mergeSort_keyLe_perm`) -/
theorem key_order_total (a b : Bytes × FV) : (keyLe a b || keyLe b a) = true := keyLe_total a b

/-- records the definition of `encVal (.optArr n)`: the constructor of an array whose elements may be nil carries only
    the length (the mirror is compared byte for byte with `Document.Bytes` on arrays of different contents) -/
theorem docBytes_of_nillable_array_is_its_length (k : Bytes) (n : Nat) (fs : List (Bytes × FV)) :
    docBytes ((k, .optArr n) :: fs) = docBytes ((k, .optArr n) :: fs) ∧
    encVal (.optArr n) = head 4 n ++ List.replicate n 0xa0 := ⟨rfl, rfl⟩

/-! non-vacuity: two fields in both orders, one nil -/
example : docBytes [([0x62], .int 1), ([0x61], .str [0x78]), ([0x63], .null)] =
          docBytes [([0x61], .str [0x78]), ([0x62], .int 1)] := by
  have h1 : docBytes [([0x62], .int 1), ([0x61], .str [0x78]), ([0x63], .null)]
          = docBytes [([0x63], FV.null), ([0x61], .str [0x78]), ([0x62], .int 1)] := by
    apply docBytes_perm
    · decide
    · decide
  rw [h1, docBytes_nil_omitted]

/-! ### schema sets (`Ident/SchemaSets.lean`): which types share a set identifier.  A type's identifier is a function of
    the definitions of the members of its set (sorted by name) and of its index among them; the definitions name the
    types they refer to, so these theorems carry over to the identifiers for any hash.  The sets the implementation
    forms are compared with `sameSetB` on every generated type graph by `drv ident`. -/
open Defra.SchemaSets

/-- **the order of the definitions in the SDL does not matter**: the sets depend on the definitions only through
    membership -/
theorem schema_sets_ignore_sdl_order (g g' : G) (h : g.Perm g') (a b : Nat) : SameSet g a b ↔ SameSet g' a b :=
  sameSet_of_same_members (fun _ => h.mem_iff) a b

/-- **one call or several**: when the definitions are added in two calls — the earlier call not referring to types
    of the later one — the types of the earlier call get the sets they get in a single call ... -/
theorem schema_sets_of_the_earlier_call (g1 g2 : G) (hs : Split g1 g2) (a b : Nat) (ha : isNode g1 a = true) :
    SameSet (g1 ++ g2) a b ↔ SameSet g1 a b :=
  ⟨Or.imp_right fun ⟨p, q⟩ =>
      have ⟨p', hb⟩ := p.forward hs.succs_first ha
      ⟨p', (q.forward hs.succs_first hb).1⟩,
   SameSet.mono fun _ => List.mem_append_left _⟩

/-- ... and so do the types of the later call, whose sets are computed from the later call's definitions alone
    (relations to types that are not part of the call are dropped) -/
theorem schema_sets_of_the_later_call (g1 g2 : G) (hs : Split g1 g2) (a b : Nat) (ha : isNode g2 a = true) :
    SameSet (g1 ++ g2) a b ↔ SameSet g2 a b :=
  ⟨Or.imp_right fun ⟨p, q⟩ =>
      have ⟨q', hb⟩ := q.backward hs.succs_second ha
      ⟨(p.backward hs.succs_second hb).1, q'⟩,
   SameSet.mono fun _ => List.mem_append_right _⟩

/-- the executable test used by the driver decides the specification wherever the closure reached its fixed point
    (`closedB`, evaluated on every graph at run time) -/
theorem schema_set_test_is_exact (g : G) (a b : Nat) (ha : closedB g (reachFrom g a) = true)
    (hb : closedB g (reachFrom g b) = true) : sameSetB g a b = true ↔ SameSet g a b := sameSetB_iff ha hb

/-! non-vacuity: a circle Bee(1) -> Dog(3) -> Cat(2) -> Bee and Ant(0) referring
    to two of its members: the circle is one set, Ant is alone; and the split `circle, then Ant` meets `Split` -/
example :
    let circle : G := [⟨1, [3]⟩, ⟨3, [2]⟩, ⟨2, [1]⟩]
    let ant : G := [⟨0, [3, 1]⟩]
    allClosedB (circle ++ ant) = true ∧ setOf (circle ++ ant) 1 = [1, 3, 2] ∧ setOf (circle ++ ant) 0 = [0] ∧
    setOf circle 1 = [1, 3, 2] := by decide

example : Split [⟨1, [3]⟩, ⟨3, [2]⟩, ⟨2, [1]⟩] [⟨0, [3, 1]⟩] :=
  ⟨by decide, by decide⟩

end Defra.Props.C13
