import DefraModel.Proofs.SchemaStore

/-!
# C19 — schema evolution never alters existing data

About the schema model (`DefraModel/Schema.lean`): a patch or a switch of the active version leaves documents, history
and data store untouched, so a field of both the old and the new active version reads the same and a newly added field
reads null; what a version reads is the stored register, whichever version wrote it; two nodes that applied the same
commits to a register agree on it (the full agreement statement is refuted: known finding). `FieldsKnown` (the store
only holds fields of known versions) holds of the initial node and is kept by every operation; the model has no type of
histories, so it is not stated over sequences of operations.
-/
namespace Defra.Schema

theorem patch_keeps_data (n : Node) (f : Field) (sd : Bool) :
    (patch n f sd).history = n.history ∧ (patch n f sd).docs = n.docs ∧ store (patch n f sd) = store n := by
  simp [patch, store]

theorem setActive_keeps_data (n : Node) (v : Version) :
    (setActive n v).history = n.history ∧ (setActive n v).docs = n.docs ∧ store (setActive n v) = store n := by
  unfold setActive
  split <;> simp [store]

theorem read_of_store_eq {a b : Node} (hs : store a = store b) (d : Nat) (f : Field)
    (ha : a.active.contains f = true) (hb : b.active.contains f = true) : read a d f = read b d f := by
  unfold read
  rw [if_pos ha, if_pos hb, hs]

/-- a field of both the old and the new active version reads the same after a patch -/
theorem patch_keeps_common_reads (n : Node) (g : Field) (sd : Bool) (d : Nat) (f : Field)
    (hold : n.active.contains f = true) (hnew : (patch n g sd).active.contains f = true) :
    read (patch n g sd) d f = read n d f :=
  read_of_store_eq (patch_keeps_data n g sd).2.2 d f hnew hold

/-- ... and after any switch of the active version, back or forth, also to a sibling version -/
theorem setActive_keeps_common_reads (n : Node) (v : Version) (d : Nat) (f : Field)
    (hold : n.active.contains f = true) (hnew : (setActive n v).active.contains f = true) :
    read (setActive n v) d f = read n d f :=
  read_of_store_eq (setActive_keeps_data n v).2.2 d f hnew hold

/-- switching away and back restores every read -/
theorem switch_back_restores (n : Node) (v : Version) (hv : n.versions.contains v = true)
    (hact : n.versions.contains n.active = true) (d : Nat) (f : Field) :
    read (setActive (setActive n v) n.active) d f = read n d f := by
  rw [setActive_of_mem hv, setActive_of_mem (n := { n with active := v }) hact]

def FieldsKnown (n : Node) : Prop :=
  n.versions.contains n.active = true ∧ ∀ c ∈ n.applied, ∃ v ∈ n.versions, c.field ∈ v

theorem fieldsKnown_init : FieldsKnown {} := by
  refine ⟨by decide, ?_⟩
  intro c hc; cases hc

theorem fieldsKnown_patch {n : Node} (h : FieldsKnown n) (f : Field) (sd : Bool) : FieldsKnown (patch n f sd) := by
  refine ⟨List.contains_iff_mem.mpr (mem_patch_versions.mpr ?_), fun c hc => ?_⟩
  · cases sd with
    | true => exact .inr rfl
    | false => exact .inl (List.contains_iff_mem.mp h.1)
  · obtain ⟨v, hv, hcv⟩ := h.2 c hc
    exact ⟨v, mem_patch_versions.mpr (.inl hv), hcv⟩

theorem fieldsKnown_setActive {n : Node} (h : FieldsKnown n) (v : Version) : FieldsKnown (setActive n v) := by
  unfold setActive
  split
  · rename_i hc
    exact ⟨hc, h.2⟩
  · exact h

theorem fieldsKnown_receive {n : Node} (h : FieldsKnown n) (c : Commit) : FieldsKnown (receive n c) := by
  unfold receive
  by_cases hh : n.history.contains c = true
  · rw [if_pos hh]
    exact h
  · rw [if_neg hh]
    by_cases hact : n.active.contains c.field = true
    · rw [if_pos hact]
      refine ⟨h.1, fun x hx => ?_⟩
      rcases List.mem_append.mp hx with hx | hx
      · exact h.2 x hx
      · cases List.mem_singleton.mp hx
        exact ⟨n.active, List.contains_iff_mem.mp h.1, List.contains_iff_mem.mp hact⟩
    · rw [if_neg hact]
      exact h

theorem fieldsKnown_write {n : Node} (h : FieldsKnown n) (d : Nat) (f : Field) (v : Nat) :
    FieldsKnown (write n d f v) := fieldsKnown_receive h _

theorem fieldsKnown_sync {src dst : Node} (h : FieldsKnown dst) : FieldsKnown (sync src dst) :=
  List.foldlRecOn src.history receive h fun _ h c _ => fieldsKnown_receive h c

/-- **Added fields read null.** A field that no version known to the node contains reads null for every document
    once a patch adds it. -/
theorem added_field_reads_null (n : Node) (h : FieldsKnown n) (f : Field) (sd : Bool)
    (hfresh : ∀ v ∈ n.versions, f ∉ v) (d : Nat) : read (patch n f sd) d f = none := by
  unfold read
  split
  · rw [(patch_keeps_data n f sd).2.2]
    cases hl : lookup (store n) d f with
    | none => rfl
    | some e =>
      obtain ⟨hm, ha⟩ := (isTop_store n.applied d f).1 e hl
      obtain ⟨v, hv, hcv⟩ := h.2 e hm
      exact absurd ((inRegister_iff.mp ha).2 ▸ hcv) (hfresh v hv)
  · rfl

/-- **Readable under any version.** What a version reads for one of its fields is the stored register, whichever
    version was active when it was written. -/
theorem readable_under_any_version (n : Node) (v : Version) (hv : n.versions.contains v = true) (d : Nat) (f : Field)
    (hf : v.contains f = true) : read (setActive n v) d f = (lookup (store n) d f).map (·.value) := by
  rw [setActive_of_mem hv]
  exact if_pos hf

/-- **Agreement (partial).** If two nodes applied the same set of commits to the register of document `d` and
    field `f` — which is the case when they exchanged all commits and each one's active version knew `f` whenever
    a commit of `f` arrived — they read the same value for `f` whenever both active versions have it.
    Missing for the full statement: commits that arrived before the node learned the field
    (`field_learned_after_merge_disagrees`). -/
theorem agree_on_common_fields_partial (a b : Node) (d : Nat) (f : Field)
    (hsame : ∀ c, c.doc = d → c.field = f → (c ∈ a.applied ↔ c ∈ b.applied))
    (ha : a.active.contains f = true) (hb : b.active.contains f = true) : read a d f = read b d f := by
  unfold read store
  rw [if_pos ha, if_pos hb, (isTop_store a.applied d f).unique (isTop_store b.applied d f) fun c hc =>
    hsame c (inRegister_iff.mp hc).1 (inRegister_iff.mp hc).2]

/-- a commit that arrives for the first time while the active version knows its field is applied -/
theorem receive_applies_known (n : Node) (c : Commit) (hk : n.active.contains c.field = true)
    (hnew : n.history.contains c = false) : c ∈ (receive n c).applied := by
  unfold receive
  rw [if_neg (by rw [hnew]; exact Bool.false_ne_true)]
  simp only
  rw [if_pos hk]
  exact List.mem_append_right _ (List.mem_singleton.mpr rfl)

def nodeA : Node := write (patch {} "city" true) 0 "city" 7
def nodeB : Node := sync nodeA (patch (sync nodeA {}) "city" true)

/-- The full statement fails: node A adds `city` and writes it; B receives the commit while it does not know
    `city`, then applies the same patch and exchanges all commits again — both know `city`, A reads 7, B reads
    null. The same history on the implementation is the known finding `field-learned-after-merge`. -/
theorem field_learned_after_merge_disagrees :
    nodeA.active = nodeB.active ∧ (∀ c, c ∈ nodeA.history ↔ c ∈ nodeB.history) ∧
    read nodeA 0 "city" = some 7 ∧ read nodeB 0 "city" = none := by
  refine ⟨by decide, ?_, by decide, by decide⟩
  have : nodeA.history = nodeB.history := by decide
  intro c; rw [this]

/-! ### non-vacuity -/

/-- sibling versions: v2 = [name, email]; v3a adds nick and a document writes it; back on v2, v3b adds phone:
    phone reads null, nick is untouched when switching back -/
example :
    let n0 : Node := patch (patch {} "email" true) "nick" true
    let n1 := write (write n0 0 "name" 1) 0 "nick" 5
    let n2 := patch (setActive n1 ["name", "email"]) "phone" true
    let n3 := write n2 0 "phone" 9
    read n2 0 "phone" = none ∧ read n3 0 "phone" = some 9 ∧
    read (setActive n3 ["name", "email", "nick"]) 0 "nick" = some 5 ∧
    read (setActive n3 ["name", "email", "nick"]) 0 "phone" = none := by decide

end Defra.Schema
