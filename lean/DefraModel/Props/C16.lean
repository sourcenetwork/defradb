import DefraModel.Proofs.Conc

/-!
# C16 — concurrent use loses no acknowledged effect

For the model of acknowledged histories (`Conc.lean`): counters read the sum of the acknowledged increments in any
order, a register holds an acknowledged write, rejected calls change nothing. The create / delete facts are about ONE
call each; the shared-transaction theorem covers the keys of the first goroutine only (there is no symmetry lemma for
`interleavings`).
-/
namespace Defra.Conc

/-- **Counters end at the sum of the successful increments** (and of the merged ones). -/
theorem counter_is_sum_of_acknowledged (h : List Call) (a : Nat) : getCounter (run h) a = expectedCounter h a := by
  unfold run
  rw [getCounter_foldl]
  simp [getCounter]

/-- the schedule does not matter: any two orders of the same acknowledged calls give the same counters -/
theorem counter_order_independent {h1 h2 : List Call} (hp : h1.Perm h2) (a : Nat) :
    getCounter (run h1) a = getCounter (run h2) a := by
  rw [counter_is_sum_of_acknowledged, counter_is_sum_of_acknowledged, expectedCounter, expectedCounter,
    ListLemmas.sum_perm (hp.map _)]

/-- which calls reported something other than success -/
def rejected : Call → Bool
  | .inc _ _ o => o != .ok
  | .set _ _ o => o != .ok
  | .create _ o => o != .ok
  | .delete _ o => o != .ok
  | _ => false

/-- a call that reported a conflict or an error changes nothing -/
theorem rejected_has_no_effect (s : State) (c : Call) (hr : rejected c = true) : apply s c = s := by
  cases c with
  | inc _ _ o | set _ _ o | create _ o | delete _ o =>
    cases o with
    | ok => cases hr
    | _ => rfl
  | mergedInc | mergedCreate => cases hr

/-- **The register holds a value an acknowledged write wrote** (or nothing when there was none). -/
theorem register_holds_acknowledged_write (h : List Call) (a : Nat) :
    match getNote (run h) a with
    | some v => v ∈ writtenValues h a
    | none => writtenValues h a = [] := by
  unfold run
  rw [getNote_foldl]
  cases hl : (writtenValues h a).getLast? with
  | some v => exact List.mem_of_getLast? hl
  | none => exact List.getLast?_eq_none_iff.mp hl

/-- a create that reported a conflict leaves the item set as it was -/
theorem rejected_create_absent (s : State) (l : String) (o : Outcome) (ho : o ≠ .ok) :
    (apply s (.create l o)).items = s.items := by
  cases o with
  | ok => exact absurd rfl ho
  | _ => rfl

/-- an acknowledged create puts the item into the state -/
theorem created_exists (s : State) (l : String) : l ∈ (apply s (.create l .ok)).items := by
  simp only [apply]
  split
  · rename_i h; simpa using h
  · exact List.mem_append_right _ (List.mem_singleton.mpr rfl)

/-- later calls other than an acknowledged delete of it keep it there -/
theorem created_exists_unless_deleted (s : State) (l : String) (hl : l ∈ s.items) (c : Call)
    (hnd : c ≠ .delete l .ok) : l ∈ (apply s c).items := by
  have add : ∀ l', l ∈ (if s.items.contains l' then s.items else s.items ++ [l']) := fun l' => by
    split
    · exact hl
    · exact List.mem_append_left _ hl
  cases c with
  | inc _ _ o | set _ _ o => cases o <;> exact hl
  | mergedInc => exact hl
  | mergedCreate l' => exact add l'
  | create l' o =>
    cases o with
    | ok => exact add l'
    | _ => exact hl
  | delete l' o =>
    cases o with
    | ok => exact List.mem_filter.mpr ⟨hl, by simpa using fun h : l = l' => hnd (h ▸ rfl)⟩
    | _ => exact hl

/-- an interleaving keeps the first goroutine's accesses in their own order -/
theorem interleaving_filter (xs ys : List Write) (p : Write → Bool)
    (hx : ∀ w ∈ xs, p w = true) (hy : ∀ w ∈ ys, p w = false) :
    ∀ zs ∈ interleavings xs ys, zs.filter p = xs := fun zs hz =>
  (filter_interleaving_eq xs ys p hy zs hz).trans (List.filter_eq_self.mpr hx)

/-- **Shared transaction.** Two goroutines write disjoint key sets through the same transaction, every access under
    its mutex: whatever the interleaving, each key ends with what its own goroutine's writes alone would leave. -/
theorem interleaving_same_final_value (xs ys : List Write) (k : String)
    (hdisj : ∀ x ∈ xs, ∀ y ∈ ys, x.key ≠ y.key) (hk : ∃ x ∈ xs, x.key = k)
    (zs : List Write) (hz : zs ∈ interleavings xs ys) :
    get (zs.foldl put []) k = get (xs.foldl put []) k := by
  obtain ⟨x0, hx0, rfl⟩ := hk
  exact get_foldl_interleaving xs ys [] _ (fun y hy => (hdisj x0 hx0 y hy).symm) zs hz

/-! ### non-vacuity -/

example : getCounter (run [.inc 0 3 .ok, .inc 0 5 .conflict, .mergedInc 0 2, .inc 1 7 .ok, .inc 0 4 .ok]) 0 = 9 := by
  rw [counter_is_sum_of_acknowledged]; decide

example : interleavings [⟨"a", "1"⟩, ⟨"a", "2"⟩] [⟨"b", "9"⟩] =
    [[⟨"a", "1"⟩, ⟨"a", "2"⟩, ⟨"b", "9"⟩], [⟨"a", "1"⟩, ⟨"b", "9"⟩, ⟨"a", "2"⟩], [⟨"b", "9"⟩, ⟨"a", "1"⟩, ⟨"a", "2"⟩]] := by
  simp [interleavings]

end Defra.Conc
