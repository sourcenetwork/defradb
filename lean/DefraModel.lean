-- Root of the `DefraModel` library: every model, proof and property module.
import DefraModel.Bytes
import DefraModel.Encoding.Int
import DefraModel.Encoding.Scalars
import DefraModel.Encoding.FieldValue
import DefraModel.Crdt.Model
import DefraModel.Kv.TxnM
import DefraModel.Query.Model
import DefraModel.Query.Group
import DefraModel.Backup
import DefraModel.Backup.Export
import DefraModel.Sign
import DefraModel.Ident.Cbor
import DefraModel.Ident.SchemaSets
import DefraModel.Index.Range
import DefraModel.Kv.Mvcc
import DefraModel.Events
import DefraModel.Generated.Types
import DefraModel.Generated.Facts
import DefraModel.Oblig.C05
import DefraModel.Crdt.Versioned
import DefraModel.Proofs.BytesLemmas
import DefraModel.Proofs.IntOrder
import DefraModel.Proofs.ScalarOrder
import DefraModel.Proofs.CrdtAlgebra
import DefraModel.Proofs.CrdtHeads
import DefraModel.Proofs.TxnAtomic
import DefraModel.Proofs.QueryOrder
import DefraModel.Proofs.QueryGroup
import DefraModel.Proofs.BackupIds
import DefraModel.Proofs.BackupExport
import DefraModel.Proofs.IdentCbor
import DefraModel.Proofs.SchemaSets
import DefraModel.Proofs.PrefixEnd
import DefraModel.Proofs.IndexRange
import DefraModel.Proofs.MvccIso
import DefraModel.Proofs.Events
import DefraModel.Proofs.ListLemmas
import DefraModel.Proofs.Repl
import DefraModel.Proofs.Conc
import DefraModel.Proofs.Restart
import DefraModel.Crdt.Height
import DefraModel.Proofs.CrdtHeight
import DefraModel.Props.C01
import DefraModel.Props.C02
import DefraModel.Props.C03
import DefraModel.Props.C04
import DefraModel.Props.C05
import DefraModel.Props.C06
import DefraModel.Props.C07
import DefraModel.Props.C08
import DefraModel.Props.C12
import DefraModel.Props.C13
import DefraModel.Props.C17
import DefraModel.Props.C18
import DefraModel.Props.C20
import DefraModel.Encrypt
import DefraModel.Proofs.EncryptInv
import DefraModel.Props.C11
import DefraModel.Acp
import DefraModel.Props.C10
import DefraModel.Relation
import DefraModel.Proofs.RelationInv
import DefraModel.Props.C09
import DefraModel.Schema
import DefraModel.Proofs.SchemaStore
import DefraModel.Props.C19
import DefraModel.Restart
import DefraModel.Props.C14
import DefraModel.Conc
import DefraModel.Props.C16
import DefraModel.Repl
import DefraModel.Props.C15
import DefraModel.Proofs.CrdtVisit
import DefraModel.Proofs.CrdtWalk
import DefraModel.Proofs.CrdtIsMerged
import DefraModel.Proofs.CrdtClosure
import DefraModel.Proofs.CrdtVersionedReplay
import DefraModel.Index.Maint
import DefraModel.Proofs.IndexMaint
import DefraModel.Index.Multi
import DefraModel.Proofs.Lookup
import DefraModel.Proofs.IndexMulti
import DefraModel.Crdt.WfCheck
import DefraModel.Proofs.CrdtMergeDoc
import DefraModel.Proofs.CrdtMergeDocRefine
import DefraModel.Proofs.CrdtMergeFull
import DefraModel.Proofs.CrdtWfCheck
import DefraModel.Proofs.CrdtConverge
import DefraModel.Proofs.CrdtVersionedDelivered
import DefraModel.Oblig.C07
import DefraModel.Oblig.C10
import DefraModel.Oblig.C16
